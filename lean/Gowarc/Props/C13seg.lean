/-
  C13 for a record the marshaler segments (Model/Writer.lean `writeSeg`): writeRecord brings the tracked size up to date
  before it hands the continuation record to write(), so the continuation is judged by the fit rule against the file
  INCLUDING the first segment.

  `write_size`: after a successful Write the tracked size is the reported offset plus the length of the member just
  written. `C13_seg_fit`: the continuation stays in the file of the first segment exactly when that size plus its declared
  (ratio-scaled) length fits the limit; otherwise it starts a fresh file, behind that file's warcinfo record if there is one.
-/
import Gowarc.Props.C13
namespace Gowarc.Props.C13
open Gowarc.SW Gowarc.Props.C04

/-- after a successful Write: the file of the response is the current file, and the tracked size is the offset of the
    response plus the length of the member written -/
theorem write_size (c : WCfg) (scale : Int → Int) (s : SW) (r : WRec) (h : Inv s) (hok : (write c scale s r).2.err = false) :
    ∃ id stamp, (write c scale s r).2.file = some id ∧ (write c scale s r).1.cur = some id ∧
      (write c scale s r).1.curSize = (write c scale s r).2.off + (r.enc stamp).length := by
  obtain ⟨id, stamp, hf, -, hcur, hsz, -⟩ := write_ok c scale s r h hok
  exact ⟨id, stamp, hf, hcur, hsz⟩

/-- **the continuation of a segmented record is fitted against the file including the first segment** -/
theorem C13_seg_fit (c : WCfg) (scale : Int → Int) (s : SW) (r n : WRec) (k : Int) (h : Inv s)
    (hmax : c.max > 0) (hd : n.decl = .val k) (hok : (write c scale s r).2.err = false) (hne : ∀ st, r.enc st ≠ []) :
    ∃ id stamp, (write c scale s r).2.file = some id ∧
      (((write c scale (write c scale s r).1 n).2.file = some id) ↔
        (((write c scale s r).2.off + (r.enc stamp).length : Nat) : Int) + (if c.compress then scale k else k) ≤ c.max) ∧
      ((((write c scale s r).2.off + (r.enc stamp).length : Nat) : Int) + (if c.compress then scale k else k) > c.max →
        (write c scale (write c scale s r).1 n).2.file = some (id + 1) ∧
        (write c scale (write c scale s r).1 n).2.off = (n.infoBytes (id + 1)).length * (if c.info then 1 else 0)) := by
  obtain ⟨id, stamp, hf, hcur, hsz⟩ := write_size c scale s r h hok
  have hpos : (write c scale s r).1.curSize > 0 := by
    have : (r.enc stamp).length > 0 := List.length_pos_iff.mpr (hne stamp)
    omega
  have := C13_fit c scale (write c scale s r).1 n k id (write_inv c scale s r h) hmax hd hcur hpos
  rw [hsz] at this
  exact ⟨id, stamp, hf, this.1, this.2⟩

end Gowarc.Props.C13
