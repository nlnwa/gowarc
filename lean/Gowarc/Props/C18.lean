/-
  C18 — WarcFields is an ordered, case-insensitive multimap.

  The model (`Gowarc.Fields.*`, `canon`) transcribes warcfields.go / normalizeName;
  it is tied to /repo by the correspondence harness (kind `fields`, `canon`) and by the regenerated field
  table `Gen.fieldDefs`. The specification is `Gowarc.Spec.MM`.
-/
import Gowarc.Lemmas.FieldsLemmas
import Gowarc.Lemmas.CanonLemmas
namespace Gowarc.Props.C18
open Gowarc.Fields

/-- Names are canonicalised on every access, and canonicalisation is idempotent: a name that went through `canon`
    once is a key that later lookups find unchanged. -/
theorem canon_idem (n : Bytes) : canon (canon n) = canon n := Gowarc.canon_idem n

/-- Regenerated obligation: the names of the extracted field table are pairwise distinct case-insensitively,
    so the Go map `lcHdrNameToDef` built from it has exactly one entry per row (first = last). -/
theorem C18_gen_names_nodup : (Gen.fieldDefs.map (fun d => lowerAscii (bs d.name))).Nodup := fieldTable_facts.1

/-- Regenerated obligation: every table name is its own canonical form. -/
theorem C18_gen_names_canonical : Gen.fieldDefs.all (fun d => canon (bs d.name) == bs d.name) = true :=
  fieldTable_facts.2.1

/-- `Set` as coded (closure over `isSet` inside `slices.DeleteFunc`, then append if nothing was set)
    equals the reference multimap's `set` under the canonical key. -/
theorem C18_set_spec (fs : Fields) (n v : Bytes) : fs.set n v = Spec.MM.set fs (canon n) v := set_eq_spec fs n v

/-- `Set` leaves exactly one value for the key … -/
theorem C18_set_one (fs : Fields) (n v : Bytes) : (fs.set n v).getAll n = [v] := by rw [getAll_set, if_pos rfl]

/-- … at the position of the first occurrence (everything before it is untouched) … -/
theorem C18_set_position (fs : Fields) (n v : Bytes) :
    (fs.set n v).takeWhile (fun p => p.1 != canon n) = fs.takeWhile (fun p => p.1 != canon n) := by
  rw [C18_set_spec]
  generalize canon n = k
  induction fs with
  | nil => simp [Spec.MM.set]
  | cons h t ih =>
    obtain ⟨a, b⟩ := h
    by_cases hk : a = k
    · subst hk; simp [Spec.MM.set]
    · simp [Spec.MM.set, hk, ih]

/-- … and keeps all other fields, in order. -/
theorem C18_set_others (fs : Fields) (n v : Bytes) :
    (fs.set n v).filter (fun p => p.1 != canon n) = fs.filter (fun p => p.1 != canon n) :=
  filter_set (· != canon n) fs n v (by simp)

/-- `Delete` removes all occurrences and nothing else. -/
theorem C18_delete (fs : Fields) (n : Bytes) :
    (fs.delete n).has n = false ∧ fs.delete n = Spec.MM.delete fs (canon n) :=
  ⟨has_delete_same fs n, List.filter_congr fun p _ => by by_cases h : p.1 = canon n <;> simp [h]⟩

/-- `Add` appends (insertion order is kept). -/
theorem C18_add (fs : Fields) (n v : Bytes) : fs.add n v = Spec.MM.add fs (canon n) v := rfl

/-- `Sort` is a stable sort by name: the result is ordered by name, is a permutation of the input, and the
    values of each name keep their relative order. -/
theorem C18_sort_stable (fs : Fields) :
    SortedByName fs.sort ∧ fs.sort.Perm fs ∧ ∀ k, fs.sort.filter (fun p => p.1 = k) = fs.filter (fun p => p.1 = k) :=
  ⟨sorted_sort fs, perm_sort fs, sort_stable fs⟩

/-- The order used by `Sort` is Go's string order: irreflexive, transitive, total. -/
theorem C18_order : (∀ a, bytesLt a a = false) ∧ (∀ a b c, bytesLt a b = true → bytesLt b c = true → bytesLt a c = true)
    ∧ (∀ a b, bytesLt a b = false → bytesLt b a = false → a = b) :=
  ⟨bytesLt_irrefl, fun _ _ _ => bytesLt_trans, fun _ _ => bytesLt_total⟩

/-- Serialisation lists the pairs as `Name: value CRLF`, in order. -/
theorem C18_write (fs : Fields) : fs.write = Spec.MM.write fs := rfl

theorem C18_write_cons (n v : Bytes) (fs : Fields) :
    Fields.write ((n, v) :: fs) = n ++ [COLON, SP] ++ v ++ crlf ++ Fields.write fs := by
  simp [Fields.write]

theorem C18_getAll (fs : Fields) (n : Bytes) : fs.getAll n = Spec.MM.getAll fs (canon n) := by
  unfold Fields.getAll Spec.MM.getAll; congr 2; funext p; by_cases h : p.1 = canon n <;> simp [h]

theorem C18_has (fs : Fields) (n : Bytes) : fs.has n = Spec.MM.has fs (canon n) := by
  rw [has_eq_getAll, C18_getAll, Spec.MM.has]; cases Spec.MM.getAll fs (canon n) <;> simp

theorem C18_get (fs : Fields) (n : Bytes) : fs.get n = Spec.MM.get fs (canon n) := by
  rw [get_eq_getAll, C18_getAll, Spec.MM.get]; cases Spec.MM.getAll fs (canon n) <;> rfl

/-! ### Refinement over arbitrary operation sequences -/

/-- the reference machine: same operations, keys already canonical, on `Spec.MM` -/
def specStep (m : Spec.MM) : FOp → Spec.MM × FOut
  | .add n v => (Spec.MM.add m (canon n) v, .unit)
  | .addInt n i => (Spec.MM.add m (canon n) (intToDec i), .unit)
  | .addId n v => (match idValue v with | none => m | some w => Spec.MM.add m (canon n) w, .unit)
  | .set n v => (Spec.MM.set m (canon n) v, .unit)
  | .setInt n i => (Spec.MM.set m (canon n) (intToDec i), .unit)
  | .setId n v => (match idValue v with | none => m | some w => Spec.MM.set m (canon n) w, .unit)
  | .del n => (Spec.MM.delete m (canon n), .unit)
  | .sort => (Fields.sort m, .unit)
  | .get n => (m, .bytes (Spec.MM.get m (canon n)))
  | .getAll n => (m, .list (Spec.MM.getAll m (canon n)))
  | .getId n => (m, .bytes (trim (fun b => b == 60 || b == 62) (Spec.MM.get m (canon n))))
  | .has n => (m, .bool (Spec.MM.has m (canon n)))
  | .getInt n => (m, .int (if Spec.MM.has m (canon n) then some (parseInt10 (Spec.MM.get m (canon n))) else none))
  | .write => (m, .bytes (Spec.MM.write m))

def specRun : Spec.MM → List FOp → List (FOut × Bytes)
  | _, [] => []
  | m, op :: rest => ((specStep m op).2, Spec.MM.write (specStep m op).1) :: specRun (specStep m op).1 rest

theorem step_refines (fs : Fields) (op : FOp) : fs.step op = specStep fs op := by
  cases op <;> simp only [Fields.step, specStep, C18_set_spec, C18_add, C18_getAll, C18_has, C18_get, C18_write,
    Fields.getId, Fields.addId, Fields.setId, (C18_delete _ _).2]
  case addId n v => cases idValue v <;> rfl
  case setId n v => cases idValue v <;> rfl

/-- **C18** — for every sequence of operations, with names in any letter case, every returned value and every
    intermediate serialisation of WarcFields equals that of the reference ordered multimap keyed by canonical
    name. (The model has no partial step: no call can panic.) -/
theorem C18_refines (ops : List FOp) (fs : Fields) : Fields.run fs ops = specRun fs ops := by
  induction ops generalizing fs with
  | nil => rfl
  | cons op rest ih => simp only [Fields.run, specRun, step_refines, ih, C18_write]

/-- non-vacuity: three case-colliding occurrences followed by another field, then `Set` -/
example : Fields.run [] [.add (bs "x-foo") (bs "1"), .add (bs "X-FOO") (bs "2"), .add (bs "X-Foo") (bs "3"),
    .add (bs "b") (bs "4"), .set (bs "x-Foo") (bs "5"), .getAll (bs "X-foo")]
    |>.getLast? |> (· = some (.list [bs "5"], bs "X-Foo: 5\r\nB: 4\r\n")) := by decide +kernel

end Gowarc.Props.C18
