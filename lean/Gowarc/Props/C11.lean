/-
  C11 — Supported concurrent use is free of data races.

  Model: the lock discipline (Model/Discipline.lean) over the shared-access table regenerated from /repo on every run
  (Gen/SharedAccess.lean: writes to package variables, writes to and reads of the writer's mutable fields with the lock
  holders, their locked regions and the call graph over ALL methods of the type, not-thread-safe external calls, name-generator and writer-struct writes, pool puts).
  Theorems: the regenerated table satisfies the discipline (`C11_table`), the unlocked set is closed (`C11_closed`), and
  — generic, for every table — a closed set contains every method that can be reached without the lock
  (`Discipline.closed_sound`), hence every field write of the table happens under writeLock (`C11_fields_locked`).
  Validation and search: workloads of the supported shape (distinct builders, unmarshalers, readers — also closed twice —
  and records per goroutine; one shared writer with a shared PatternNameGenerator, 1–4 workers, Rotate and Close in
  flight; default and customised options) run in the -race build of the harness; every report of the detector is a
  violation with the two conflicting functions as the replay.
  Partial: the Go memory model, the extractor's syntactic call graph and third-party internals are trusted; accesses
  the table does not describe (anything reached only through interfaces or closures) are covered by the detector runs only.
-/
import Gowarc.Model.Discipline
import Gowarc.Gen.SharedAccess
namespace Gowarc.Props.C11
open Gowarc.Discipline

def table : Table :=
  { pkgVarWrites := Gowarc.Gen.pkgVarWrites, writerFieldWrites := Gowarc.Gen.writerFieldWrites, writerFieldReads := Gowarc.Gen.writerFieldReads, lockHolders := Gowarc.Gen.lockHolders,
    innerCalls := Gowarc.Gen.innerCalls, outerCalls := Gowarc.Gen.outerCalls, unsafeExternalCalls := Gowarc.Gen.unsafeExternalCalls,
    generatorFieldWrites := Gowarc.Gen.generatorFieldWrites, writerStructWrites := Gowarc.Gen.writerStructWrites, poolPuts := Gowarc.Gen.poolPuts,
    pkgObjects := Gowarc.Gen.pkgObjects, readerFieldWrites := Gowarc.Gen.readerFieldWrites,
    optsFieldWrites := Gowarc.Gen.optsFieldWrites }

/-- **the extracted table satisfies the discipline** -/
theorem C11_table : RaceFree table = true := by decide +kernel

/-- the conjuncts of `RaceFree` that the theorems below name or use -/
theorem raceFree_parts {t : Table} (h : RaceFree t = true) :
    Closed t (unlocked t) = true ∧
    t.writerFieldWrites.all (fun w => !(unlocked t).contains w.2) = true ∧
    t.writerFieldReads.all (fun w => !(unlocked t).contains w.2) = true ∧
    t.pkgObjects.all (fun o => allowedMaker o.2.2) = true ∧
    t.readerFieldWrites.all (fun w => w == ("bufferedReader", "Close")) = true := by
  simp only [RaceFree, Bool.and_eq_true] at h
  obtain ⟨⟨⟨⟨⟨⟨⟨⟨⟨⟨_, hc⟩, hw⟩, hr⟩, _⟩, _⟩, _⟩, _⟩, ho⟩, hrd⟩, _⟩ := h
  exact ⟨hc, hw, hr, ho, hrd⟩

theorem C11_closed : Closed table (unlocked table) = true := (raceFree_parts C11_table).1

/-- **options are immutable once constructed**: no function assigns a field of an options object through an `.opts`
    field: the object a reader, unmarshaler or builder shares with all the records it produces is only ever read after
    construction (seed C11-k: ToRevisitRecord adjusting the default digest algorithm in place) -/
theorem C11_opts_immutable : table.optsFieldWrites = [] := rfl

/-- **a file reader keeps nothing of what it hands out**: no method of WarcFileReader assigns a field except Close
    (which gives the input buffer back to its pool); a record returned by Next is referenced by its receiver alone (seed
    C11-g: a reader that remembers and later closes the record it returned) -/
theorem C11_reader_keeps_nothing : table.readerFieldWrites.all (fun w => w == ("bufferedReader", "Close")) = true :=
  have ⟨_, _, _, _, h⟩ := raceFree_parts C11_table; h

/-- **no package-level variable holds a mutable object**: every object created at package level is made by one of the
    allowed makers (error values, version descriptors, sync.Pool, and slice and map literals: tables that nothing outside
    `init` assigns into, sorts, clears or deletes from: `pkgVarWrites`) — in particular no buffer, reader or
    cache is shared behind the API by all users of the package (seed C11-i: a sentinel disk buffer) -/
theorem C11_pkg_objects : table.pkgObjects.all (fun o => allowedMaker o.2.2) = true :=
  have ⟨_, _, _, h, _⟩ := raceFree_parts C11_table; h

/-- a method none of the unlocked methods is, reached from outside along a path that takes no lock after its first
    step, was entered through a lock holder -/
theorem locked_of_not_unlocked {m f : String} {path : List String} (hm : (unlocked table).contains m = false)
    (hentry : (f, path.head?.getD m) ∈ table.outerCalls) (hpath : UnlockedPath table path) (hlast : path.getLast? = some m) :
    table.lockHolders.contains (path.head?.getD m) = true := by
  cases hnl : table.lockHolders.contains (path.head?.getD m) with
  | true => rfl
  | false => rw [closed_sound table (unlocked table) C11_closed f path m hentry hnl hpath hlast] at hm; cases hm

/-- every method that assigns a field of the per-file writer runs under writeLock on every call path from outside -/
theorem C11_fields_locked (field m f : String) (path : List String) (hw : (field, m) ∈ table.writerFieldWrites)
    (hentry : (f, path.head?.getD m) ∈ table.outerCalls) (hpath : UnlockedPath table path) (hlast : path.getLast? = some m) :
    table.lockHolders.contains (path.head?.getD m) = true :=
  have ⟨_, hall, _⟩ := raceFree_parts C11_table
  locked_of_not_unlocked (by simpa using List.all_eq_true.mp hall _ hw) hentry hpath hlast

/-- … and so does every method that reads a field some method assigns -/
theorem C11_reads_locked (field m f : String) (path : List String) (hw : (field, m) ∈ table.writerFieldReads)
    (hentry : (f, path.head?.getD m) ∈ table.outerCalls) (hpath : UnlockedPath table path) (hlast : path.getLast? = some m) :
    table.lockHolders.contains (path.head?.getD m) = true :=
  have ⟨_, _, hall, _⟩ := raceFree_parts C11_table
  locked_of_not_unlocked (by simpa using List.all_eq_true.mp hall _ hw) hentry hpath hlast

/-- non-vacuity: the table is not empty and the closure computation sees the entry points -/
example : table.writerFieldWrites.length > 0 ∧ table.writerFieldReads.length > 0 ∧ table.outerCalls.length > 0 ∧ table.lockHolders = ["Write", "Close"] := by decide +kernel

end Gowarc.Props.C11
