/-
  C10 — Write, Rotate and Close always return (no deadlock, no lost wake-up).
  (C09's protocol-level clauses — exactly once, nil means nothing written — are in Props/C09.lean over the same model.)
-/
import Gowarc.Model.Proto
namespace Gowarc.Props.C10
open Gowarc.Proto

theorem upd_congr {α β} (g : α → β) {f : Nat → α} {i : Nat} {v : α} (h : g v = g (f i)) (j : Nat) :
    g (upd f i v j) = g (f j) := by
  unfold upd; split <;> simp_all

theorem upd_forall {α} {P : α → Prop} {f : Nat → α} {n : Nat} (h : ∀ j, j < n → P (f j)) (i : Nat) {v : α} (hv : P v) :
    ∀ j, j < n → P (upd f i v j) := fun j hj => by
  unfold upd; split
  · exact hv
  · exact h j hj

def dHolds (s : St) (c : Nat) : Prop := s.disp = .d1 c ∨ s.disp = .dx c
def wHolds (s : St) (i c : Nat) : Prop := s.workers i = .k1 c ∨ s.workers i = .k2 c

/-- a caller's record fits its control point: inside a Write the call in progress is a Write; waiting for the wait group it
    is a Close, and `closed` is closed -/
def okCaller (closed : Bool) (x : Caller) : Prop :=
  (x.pc = .w1 ∨ x.pc = .w2 → ∃ r, x.rest = .write :: r) ∧ (x.pc = .c2 → closed = true ∧ ∃ r, x.rest = .close :: r)

theorem okCaller.mono {b : Bool} {x : Caller} (h : okCaller b x) : okCaller true x :=
  ⟨h.1, fun hp => ⟨rfl, (h.2 hp).2⟩⟩

/-- a worker leaves its loop only after `jobs` was closed -/
def okWorker (jobsClosed : Bool) (w : WPc) : Prop := w = .k3 ∨ w = .kend → jobsClosed = true

def sumTo {α} (g : α → Nat) (f : Nat → α) : Nat → Nat
  | 0 => 0
  | n + 1 => sumTo g f n + g (f n)

theorem sumTo_congr {α} (g : α → Nat) {f f' : Nat → α} {n : Nat} (h : ∀ j, j < n → f' j = f j) : sumTo g f' n = sumTo g f n := by
  induction n with
  | zero => rfl
  | succ m ih => simp only [sumTo, ih fun j hj => h j (by omega), h m (by omega)]

/-- the sum with the term at `i` taken out: what a point update leaves alone -/
theorem sumTo_upd {α} (g : α → Nat) (f : Nat → α) {i n : Nat} (hi : i < n) :
    ∃ R, sumTo g f n = R + g (f i) ∧ ∀ v, sumTo g (upd f i v) n = R + g v := by
  induction n with
  | zero => omega
  | succ m ih =>
    by_cases him : i = m
    · subst him
      exact ⟨sumTo g f i, rfl, fun v => by
        simp only [sumTo, upd_same, sumTo_congr g (n := i) fun j hj => upd_other f i j v (by omega)]⟩
    · obtain ⟨R, h0, h1⟩ := ih (by omega)
      refine ⟨R + g (f m), ?_, fun v => ?_⟩ <;> simp only [sumTo, h0, h1, upd_other _ _ _ _ (Ne.symm him)] <;> omega

theorem sumTo_pos {α} (g : α → Nat) (f : Nat → α) {n : Nat} (h : 0 < sumTo g f n) : ∃ i, i < n ∧ 0 < g (f i) := by
  induction n with
  | zero => cases h
  | succ m ih =>
    by_cases hm : 0 < g (f m)
    · exact ⟨m, by omega, hm⟩
    · obtain ⟨i, hi, hg⟩ := ih (by simp only [sumTo] at h; omega)
      exact ⟨i, by omega, hg⟩

theorem sumTo_le {α} (g : α → Nat) (f : Nat → α) {i n : Nat} (hi : i < n) : g (f i) ≤ sumTo g f n := by
  obtain ⟨R, h0, _⟩ := sumTo_upd g f hi
  omega

/-- how many copies of caller `c`'s job a control point of the dispatcher, of a worker holds -/
def dJob (c : Nat) : DPc → Nat
  | .d1 j | .dx j => if j = c then 1 else 0
  | _ => 0

def wJob (c : Nat) : WPc → Nat
  | .k1 j | .k2 j => if j = c then 1 else 0
  | _ => 0

theorem dJob_pos {s : St} {c : Nat} : 0 < dJob c s.disp ↔ dHolds s c := by
  cases h : s.disp <;> simp [dHolds, dJob, h] <;> split <;> simp [*]

theorem wJob_pos {s : St} {i c : Nat} : 0 < wJob c (s.workers i) ↔ wHolds s i c := by
  cases h : s.workers i <;> simp [wHolds, wJob, h] <;> split <;> simp [*]

/-- conservation of jobs: the job of a caller waiting in `w2` is held by exactly one goroutine, and nothing else is held -/
def Tok (n k : Nat) (s : St) : Prop :=
  ∀ c, dJob c s.disp + sumTo (wJob c) s.workers k = if c < n ∧ (s.callers c).pc = .w2 then 1 else 0

section
variable {n k : Nat} {s s' : St}

theorem Tok.le_one (t : Tok n k s) (c : Nat) : dJob c s.disp + sumTo (wJob c) s.workers k ≤ 1 := by
  rw [t c]; split <;> omega

theorem Tok.wheld (t : Tok n k s) {i c : Nat} (hi : i < k) (h : wHolds s i c) : c < n ∧ (s.callers c).pc = .w2 := by
  have t := t c; have := sumTo_le (wJob c) s.workers hi; have := wJob_pos.2 h
  split at t
  · assumption
  · omega

theorem Tok.held (t : Tok n k s) {c : Nat} (hc : c < n) (hw : (s.callers c).pc = .w2) : dHolds s c ∨ ∃ i, i < k ∧ wHolds s i c := by
  have t := t c
  rw [if_pos ⟨hc, hw⟩] at t
  by_cases hd : 0 < dJob c s.disp
  · exact .inl (dJob_pos.1 hd)
  · obtain ⟨i, hi, hg⟩ := sumTo_pos (wJob c) s.workers (n := k) (by omega)
    exact .inr ⟨i, hi, wJob_pos.1 hg⟩

theorem Tok.uniq_dw (t : Tok n k s) {i c : Nat} (hi : i < k) (hd : dHolds s c) : ¬ wHolds s i c := fun hw => by
  have := t.le_one c; have := sumTo_le (wJob c) s.workers hi; have := wJob_pos.2 hw; have := dJob_pos.2 hd
  omega

theorem Tok.uniq_ww (t : Tok n k s) {i i' c : Nat} (hi : i < k) (hi' : i' < k) (h : wHolds s i c) (h' : wHolds s i' c) : i = i' :=
  Classical.byContradiction fun hne => by
    -- take worker i out of the sum (`sumTo_upd` with an idle worker in its place): the term of i' is still in it
    obtain ⟨R, h0, h1⟩ := sumTo_upd (wJob c) s.workers hi
    have := sumTo_le (wJob c) (upd s.workers i .k0) hi'
    rw [h1, upd_other _ _ _ _ (Ne.symm hne)] at this
    have := t.le_one c; have := wJob_pos.2 h; have := wJob_pos.2 h'
    simp only [wJob] at *
    omega

/-- `Tok` reads the callers only through "c waits in `w2`" -/
theorem Tok.congr (t : Tok n k s) (hc : ∀ c, ((s'.callers c).pc = .w2) = ((s.callers c).pc = .w2))
    (hd : ∀ c, dJob c s'.disp = dJob c s.disp) (hw : s'.workers = s.workers) : Tok n k s' :=
  fun c => by simp only [hc, hd, hw, t c]

/-- Conservation through a step. `Tok` at `c` reads: (job of `c` at the dispatcher) + (jobs of `c` at the workers) =
    (1 if `c` waits in `w2`). What each step that moves a job does to these three terms, and the guard by which the one who
    takes it held nothing:

      step       gives                              takes                              the taker was empty by
      wSend      caller c: w1 → w2, right side +1   dispatcher: d0 → d1 c, first +1    `s.disp = .d0`
      dForward   dispatcher: d1 c → d0, first -1    worker i: k0 → k1 c, second +1     `s.workers i = .k0`
      dLast      dispatcher: dx j → dend, first -1  worker i: k0 → k1 j, second +1     `s.workers i = .k0`
      kReply     worker i: k2 c → k0, second -1     caller c: w2 → start, right side -1

    `kWork` (k1 c → k2 c) changes where worker `i` stands, not what it holds; `kExit` and `kClose` move it between control
    points that hold nothing. The remaining steps move a caller between control points other than `w2` and leave the
    dispatcher's job alone (`cSignal1`: d1 j → dx j). For a step of worker `i`, `sumTo_upd` takes its term out of the sum. -/
theorem step_tok (t : Tok n k s) (hs : Step n k s s') : Tok n k s' := by
  cases hs with
  | wStartClosed | wStart | wGiveUp | cStartClosed | cSignal0 | cSignal1 | cDone | rotate =>
    exact t.congr (upd_congr (fun x : Caller => x.pc = .w2) (by simp [*])) (fun _ => by simp [dJob, *]) rfl
  | dForward i | dLast i | kWork i | kExit i | kClose i =>
    intro c'
    have t := t c'
    obtain ⟨R, h0, h1⟩ := sumTo_upd (wJob c') s.workers ‹i < k›
    simp only [*, dJob, wJob] at t ⊢
    omega
  | wSend c r hc hcc hd =>
    intro c'
    have t := t c'
    by_cases h : c' = c
    · -- c itself: was in w1 (right side 0), so nobody held its job; now the dispatcher does and c waits in w2
      simp [*, dJob] at t ⊢; omega
    · -- another caller: the dispatcher held nothing of it (d0) and holds nothing of it (d1 c)
      simp [*, dJob, upd_other _ _ _ _ h, Ne.symm h] at t ⊢; omega
  | kReply i c r hi hc hw hcc =>
    intro c'
    have t := t c'
    obtain ⟨R, h0, h1⟩ := sumTo_upd (wJob c') s.workers hi
    by_cases h : c' = c
    · -- c itself: worker i held its one job (so the rest of the sum and the dispatcher hold 0) and c leaves w2
      subst h; simp [*, wJob] at t ⊢; omega
    · -- another caller: worker i held nothing of it (k2 c) and holds nothing of it (k0)
      simp [*, wJob, upd_other _ _ _ _ h, Ne.symm h] at t ⊢; omega

end

structure Inv (n k : Nat) (s : St) : Prop where
  tok : Tok n k s
  closed_iff : s.closed = true ↔ (s.disp = .dend ∨ ∃ j, s.disp = .dx j)
  jobs_iff : s.jobsClosed = true ↔ s.disp = .dend
  ended : ∀ i, i < k → okWorker s.jobsClosed (s.workers i)
  callers_ok : ∀ c, c < n → okCaller s.closed (s.callers c)

theorem inv_init (n k : Nat) (progs : Nat → List COp) : Inv n k (init progs) := by
  refine ⟨fun c => ?_, ?_, ?_, ?_, ?_⟩
  · have : sumTo (wJob c) (fun _ => .k0) k = 0 :=
      Nat.eq_zero_of_not_pos fun h => by obtain ⟨_, _, hg⟩ := sumTo_pos _ _ h; cases hg
    simp [init, dJob, this]
  all_goals simp [init, okCaller, okWorker]

/-- the remaining clauses each rest on themselves and the step's guard alone; only the steps that write a field the clause
    reads are named, the others leave it as it is -/
theorem step_inv {n k : Nat} {s s' : St} (h : Inv n k s) (hs : Step n k s s') : Inv n k s' where
  tok := step_tok h.tok hs
  -- in the next two clauses the guard names the dispatcher's old control point and the step its new one (and the new
  -- flags): `simp_all` evaluates both sides of the equivalence, before (`this`) and after
  closed_iff := by  -- reads `closed`, `disp`
    have := h.closed_iff
    cases hs with
    | wSend | dForward | dLast | cSignal0 | cSignal1 => simp_all
    | _ => exact this
  jobs_iff := by  -- reads `jobsClosed`, `disp`
    have := h.jobs_iff
    cases hs with
    | wSend | dForward | dLast | cSignal0 | cSignal1 => simp_all
    | _ => exact this
  ended := by  -- reads `workers`, `jobsClosed`
    have := h.ended
    cases hs with
    | dForward | kWork | kReply | kExit => exact upd_forall this _ (by simp [okWorker, *])
    | kClose i hi hw => exact upd_forall this _ fun _ => this i hi (.inl hw)
    | dLast | cSignal0 => exact fun _ _ _ => rfl
    | _ => exact this
  callers_ok := by  -- reads `callers`, `closed`
    have := h.callers_ok
    cases hs with
    | wStartClosed | wStart | wGiveUp | wSend | kReply | cStartClosed | cDone | rotate =>
      exact upd_forall this _ (by simp [okCaller, *])
    | cSignal0 | cSignal1 => exact upd_forall (fun c hc => (this c hc).mono) _ (by simp [okCaller])
    | _ => exact this

theorem reach_inv {n k : Nat} {progs : Nat → List COp} {s : St} (h : Reach n k progs s) : Inv n k s := by
  induction h with
  | init => exact inv_init n k progs
  | step s s' _ hs ih => exact step_inv ih hs

/-- A worker ends only after `jobs` was closed, which is the dispatcher's last act: once any worker has ended the writer is
    closed for good and the dispatcher holds nothing. -/
theorem Inv.ended_closed {n k : Nat} {s : St} (h : Inv n k s) {i : Nat} (hi : i < k) (he : s.workers i = .kend) :
    s.closed = true ∧ s.jobsClosed = true ∧ s.disp = .dend :=
  have hd := h.jobs_iff.1 (h.ended i hi (.inr he))
  ⟨h.closed_iff.2 (.inl hd), h.jobs_iff.2 hd, hd⟩

section
variable {n k : Nat} {s : St}

/-- a worker that holds a job or is closing its file can go on -/
theorem Inv.worker_steps (h : Inv n k s) {i : Nat} (hi : i < k) (h0 : s.workers i ≠ .k0) (he : s.workers i ≠ .kend) :
    ∃ s', Step n k s s' := by
  cases hw : s.workers i with
  | k0 => exact absurd hw h0
  | kend => exact absurd hw he
  | k1 j => exact ⟨_, Step.kWork s i j hi hw⟩
  | k3 => exact ⟨_, Step.kClose s i hi hw⟩
  | k2 j =>
    obtain ⟨hj, hpc⟩ := h.tok.wheld hi (.inr hw)
    obtain ⟨r, hr⟩ := (h.callers_ok j hj).1 (.inr hpc)
    exact ⟨_, Step.kReply s i j r hi hj hw (by cases hcj : s.callers j; simp_all)⟩

/-- once `closed` is closed a worker that has not ended can go on: an idle one leaves, or takes the dispatcher's last job -/
theorem Inv.worker_steps_closed (h : Inv n k s) {i : Nat} (hi : i < k) (he : s.workers i ≠ .kend) (hcl : s.closed = true) :
    ∃ s', Step n k s s' := by
  by_cases h0 : s.workers i = .k0
  · rcases h.closed_iff.1 hcl with hd | ⟨j, hd⟩
    · exact ⟨_, Step.kExit s i hi h0 (h.jobs_iff.2 hd)⟩
    · exact ⟨_, Step.dLast s i j hi hd h0⟩
  · exact h.worker_steps hi h0 he

/-- while the dispatcher holds a job, the first worker is idle and takes it, or is busy and goes on: it cannot have ended -/
theorem Inv.disp_steps (h : Inv n k s) (hk : 0 < k) {j : Nat} (hd : dHolds s j) : ∃ s', Step n k s s' := by
  by_cases h0 : s.workers 0 = .k0
  · rcases hd with hd | hd
    · exact ⟨_, Step.dForward s 0 j hk hd h0⟩
    · exact ⟨_, Step.dLast s 0 j hk hd h0⟩
  · refine h.worker_steps hk h0 fun he => ?_
    rcases hd with hd | hd <;> rw [(h.ended_closed hk he).2.2] at hd <;> cases hd

end

/-- **no state is stuck while a call is outstanding**: from every reachable state in which some caller has not finished
    its program, some goroutine can take a step — for any number of callers and workers (at least one) and any programs -/
theorem C10_no_stuck (n k : Nat) (hk : 0 < k) (progs : Nat → List COp) (s : St) (hr : Reach n k progs s)
    (c : Nat) (hc : c < n) (hnf : ¬ finished s c) : ∃ s', Step n k s s' := by
  have hi := reach_inv hr
  cases hcc : s.callers c with
  | mk pc rest =>
    cases pc with
    | start =>
      cases rest with
      | nil => exact absurd hcc hnf
      | cons op r =>
        cases op with
        | write =>
          cases hcl : s.closed with
          | true => exact ⟨_, Step.wStartClosed s c r hc hcc hcl⟩
          | false => exact ⟨_, Step.wStart s c r hc hcc hcl⟩
        | rotate => exact ⟨_, Step.rotate s c r hc hcc⟩
        | close =>
          cases hd : s.disp with
          | d0 => exact ⟨_, Step.cSignal0 s c r hc hcc hd⟩
          | d1 j => exact ⟨_, Step.cSignal1 s c j r hc hcc hd⟩
          | dx j => exact ⟨_, Step.cStartClosed s c r hc hcc (hi.closed_iff.2 (.inr ⟨j, hd⟩))⟩
          | dend => exact ⟨_, Step.cStartClosed s c r hc hcc (hi.closed_iff.2 (.inl hd))⟩
    | w1 =>
      obtain ⟨r, rfl⟩ : ∃ r, rest = .write :: r := by simpa [hcc] using (hi.callers_ok c hc).1
      cases hd : s.disp with
      | d0 => exact ⟨_, Step.wSend s c r hc hcc hd⟩
      | d1 j => exact hi.disp_steps hk (.inl hd)
      | dx j => exact ⟨_, Step.wGiveUp s c r hc hcc (hi.closed_iff.2 (.inr ⟨j, hd⟩))⟩
      | dend => exact ⟨_, Step.wGiveUp s c r hc hcc (hi.closed_iff.2 (.inl hd))⟩
    | w2 =>
      rcases hi.tok.held hc (by simp [hcc]) with hd | ⟨i, hi', hw⟩
      · exact hi.disp_steps hk hd
      · have : s.workers i ≠ .k0 ∧ s.workers i ≠ .kend := by rcases hw with h | h <;> simp [h]
        exact hi.worker_steps hi' this.1 this.2
    | c2 =>
      obtain ⟨hcl, r, rfl⟩ : s.closed = true ∧ ∃ r, rest = .close :: r := by simpa [hcc] using (hi.callers_ok c hc).2
      by_cases hall : ∀ i, i < k → s.workers i = .kend
      · exact ⟨_, Step.cDone s c r hc hcc hall⟩
      · obtain ⟨i, hi', hne⟩ : ∃ i, i < k ∧ s.workers i ≠ .kend := by
          simpa only [Classical.not_forall, exists_prop] using hall
        exact hi.worker_steps_closed hi' hne hcl

/-! ### termination: a measure that every step decreases

  Every goroutine carries the cost of the steps it may still take on its own, and whoever hands a job over pays for what
  the receiver will do with it: of the 7 of a pending Write `wStart` uses 1, `wSend` gives 3 to the dispatcher and keeps 1
  for the reply; of the dispatcher's 4 in `d1`/`dx`, `dForward`/`dLast` give 2 to the worker, which uses 1 in `kWork` and 1
  in `kReply` and is idle again at 2, its cost of `kExit` and `kClose`. The idle dispatcher keeps 1 for `cSignal0`. A
  pending Close is 3: 2 for its first step, 1 for `cDone`. `rw` is the remaining work of a program, `wc` that of a caller
  (its program, and the rest of the call it is in), `wd` that of the dispatcher and `ww` that of a worker at their control
  points. What each step does to the three summands of `mu`:

      step                     callers  disp  workers    mu
      wStart                     -1                      -1
      wStartClosed               -7                      -7
      wGiveUp                    -6                      -6
      wSend                      -5      +3              -2
      dForward                           -3     +2       -1
      dLast                              -4     +2       -2
      kWork, kExit, kClose                      -1       -1
      kReply                     -1             -1       -2
      cStartClosed               -2                      -2
      cSignal0                   -2      -1              -3
      cSignal1                   -2       0              -2
      cDone, rotate              -1                      -1
-/

def rw : List COp → Nat
  | [] => 0
  | .write :: r => 7 + rw r
  | .close :: r => 3 + rw r
  | .rotate :: r => 1 + rw r

def wc (c : Caller) : Nat :=
  match c.pc, c.rest with
  | .start, r => rw r
  | .w1, _ :: r => 6 + rw r
  | .w2, _ :: r => 1 + rw r
  | .c2, _ :: r => 1 + rw r
  | _, [] => 0

def wd : DPc → Nat
  | .d0 => 1 | .d1 _ => 4 | .dx _ => 4 | .dend => 0

def ww : WPc → Nat
  | .k0 => 2 | .k1 _ => 4 | .k2 _ => 3 | .k3 => 1 | .kend => 0

def mu (n k : Nat) (s : St) : Nat := sumTo wc s.callers n + wd s.disp + sumTo ww s.workers k

/-- **every step decreases the measure**: there is no infinite execution, whatever the scheduler does -/
theorem C10_measure (n k : Nat) (s s' : St) (hs : Step n k s s') : mu n k s' < mu n k s := by
  cases hs with
  | wStartClosed | wStart | wGiveUp | wSend | cStartClosed | cSignal0 | cSignal1 | cDone | rotate =>
    obtain ⟨R, h0, h1⟩ := sumTo_upd wc s.callers ‹_ < n›
    simp only [mu, wc, rw, wd, *]; omega
  | dForward | dLast | kWork | kExit | kClose =>
    obtain ⟨R, h0, h1⟩ := sumTo_upd ww s.workers ‹_ < k›
    simp only [mu, ww, wd, *]; omega
  | kReply =>
    obtain ⟨R, h0, h1⟩ := sumTo_upd wc s.callers ‹_ < n›
    obtain ⟨R', h0', h1'⟩ := sumTo_upd ww s.workers ‹_ < k›
    simp only [mu, wc, ww, *]; omega

/-- `Run n k s m t`: an execution of `m` steps from `s` to `t` -/
inductive Run (n k : Nat) : St → Nat → St → Prop
  | nil (s : St) : Run n k s 0 s
  | cons (s s' t : St) (m : Nat) : Step n k s s' → Run n k s' m t → Run n k s (m + 1) t

/-- executions are bounded: a run of m steps needs mu ≥ m at its start -/
theorem C10_bounded (n k : Nat) (s t : St) (m : Nat) (h : Run n k s m t) : m + mu n k t ≤ mu n k s := by
  induction h with
  | nil s => omega
  | cons s s' t m hs _ ih => have := C10_measure n k s s' hs; omega

/-- a maximal execution (one that cannot be extended) has every call returned -/
theorem C10_maximal_finished (n k : Nat) (hk : 0 < k) (progs : Nat → List COp) (s : St) (hr : Reach n k progs s)
    (hmax : ¬ ∃ s', Step n k s s') : ∀ c, c < n → finished s c :=
  fun c hc => Classical.byContradiction fun hnf => hmax (C10_no_stuck n k hk progs s hr c hc hnf)

/-- **every call returns**: any execution from any reachable state can be extended to one in which every caller has
    finished its program, and no execution is longer than the measure — so, with no fairness assumption at all, every
    maximal execution ends with every Write, Rotate and Close returned -/
theorem C10_all_return (n k : Nat) (hk : 0 < k) (progs : Nat → List COp) (s : St) (hr : Reach n k progs s) :
    ∃ t m, Run n k s m t ∧ ∀ c, c < n → finished t c := by
  -- run until nothing can step: by strong induction on the measure
  generalize hm : mu n k s = m
  induction m using Nat.strongRecOn generalizing s with
  | _ m ih =>
    by_cases hmax : ∃ s', Step n k s s'
    · obtain ⟨s', hs⟩ := hmax
      have hlt := C10_measure n k s s' hs
      obtain ⟨t, m', hrun, hfin⟩ := ih (mu n k s') (by omega) s' (Reach.step s s' hr hs) rfl
      exact ⟨t, m' + 1, Run.cons s s' t m' hs hrun, hfin⟩
    · exact ⟨s, 0, Run.nil s, C10_maximal_finished n k hk progs s hr hmax⟩

/-! ### after Close -/

/-- `closed` stays closed, a worker that has ended stays ended -/
theorem closed_mono (n k : Nat) (s s' : St) (hs : Step n k s s') (h : s.closed = true) : s'.closed = true := by
  cases hs with
  | cSignal0 | cSignal1 => rfl
  | _ => exact h

theorem kend_mono (n k : Nat) (s s' : St) (hs : Step n k s s') (i : Nat) (h : s.workers i = .kend) : s'.workers i = .kend := by
  cases hs with
  -- the worker that steps is not at `kend` (its guard), so `i` is another one
  | dForward | dLast | kWork | kReply | kExit | kClose => simp only [upd]; split <;> simp_all
  | _ => exact h

/-- **when Close returns every worker has ended (its file closed under its final name, step kClose), and the writer is
    closed for good**: the step in which a Close call returns requires all workers to be at their end, and from then on
    every Write takes the `closed` branch and returns nil in one step -/
theorem C10_after_close (n k : Nat) (hk : 0 < k) (progs : Nat → List COp) (s : St) (hr : Reach n k progs s) (c : Nat) (r : List COp)
    (hc : c < n) (hcc : s.callers c = ⟨.c2, .close :: r⟩) (hall : ∀ i, i < k → s.workers i = .kend) :
    s.closed = true ∧ s.jobsClosed = true ∧ s.disp = .dend :=
  (reach_inv hr).ended_closed hk (hall 0 hk)

/-- once closed, a Write that starts returns nil at once and hands nothing to any worker -/
theorem C10_write_after_close (n k : Nat) (s : St) (c : Nat) (r : List COp) (hc : c < n)
    (hcc : s.callers c = ⟨.start, .write :: r⟩) (hcl : s.closed = true) :
    ∃ s', Step n k s s' ∧ s'.callers c = ⟨.start, r⟩ ∧ s'.log = s.log ∧ s'.results c = s.results c ++ [⟨r.length + 1, false⟩] :=
  ⟨_, Step.wStartClosed s c r hc hcc hcl, by simp, rfl, by simp⟩

/-! ### non-vacuity: two callers, one worker -/
example : ∃ s', Step 2 1 (init (fun c => if c = 0 then [.write, .close] else [.write])) s' :=
  ⟨_, Step.wStart _ 0 [.close] (by decide) rfl rfl⟩

end Gowarc.Props.C10
