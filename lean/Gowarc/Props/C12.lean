/-
  C12 — A killed writer leaves only complete final files and whole-record prefixes.

  Model: `effectLog` / `crashDisk` (Model/Crash.lean): the file-system effects of the sequential writer in program order,
  at byte granularity, and the disk after the first k of them.
  Tie: correspondence kind `crash` — the workload runs in a child process under `strace`; the traced
  openat/write/fsync/close/rename calls on the output directory (consecutive writes merged) and the acknowledgements the
  child prints must equal the model's log for the same history; every crash state (every effect boundary and every byte
  inside every write) is materialised from the trace and judged by an independent scanner; a number of real SIGKILLs at
  trace-chosen instants validate the materialisation.

  Theorems, for every list of files in which all but the last are closed (the invariant of every reachable writer
  state, C04/C13) and EVERY kill point k:
  * `C12_shape`: the disk holds the earlier files complete under their final names, followed by at most one in-progress
    file whose content is whole members followed by a strict prefix of the next member;
  * `C12_acked`: every record whose Write has returned lies completely in its file at its reported offset;
  * `C12_final_stable`: a file that carries its final name is never touched by a later effect.
-/
import Gowarc.Model.Crash
import Gowarc.Lemmas.WriterLemmas
import Gowarc.Lemmas.Lists
namespace Gowarc.Props.C12

def flat (ms : List Member) : Bytes := (ms.map (·.bytes)).flatten

theorem flat_append (a b : List Member) : flat (a ++ b) = flat a ++ flat b := by simp [flat]
theorem flat_cons (m : Member) (b : List Member) : flat (m :: b) = m.bytes ++ flat b := by simp [flat]
theorem flat_snoc (a : List Member) (m : Member) : flat (a ++ [m]) = flat a ++ m.bytes := by
  rw [flat_append, flat_cons]; simp [flat]
theorem content_eq_flat (f : WFile) : f.content = flat f.members := rfl

/-- "whole members plus a proper prefix": `c` is the bytes of the first members `done` of `ms`, followed by `part`, which
    is empty or a strict prefix of the member that comes after `done` -/
def WPP (ms : List Member) (c : Bytes) : Prop :=
  ∃ done rest part, ms = done ++ rest ∧ c = flat done ++ part ∧
    (part = [] ∨ ∃ m rest' tl, rest = m :: rest' ∧ m.bytes = part ++ tl ∧ tl ≠ [])

def full (f : WFile) : DFile := ⟨f.id, f.content, true⟩

/-- complete final files, then at most one in-progress file -/
def ShapeOK (files : List WFile) (d : Disk) : Prop :=
  ∃ n, n ≤ files.length ∧
    (d.files = (files.take n).map full ∨
     ∃ f c, files[n]? = some f ∧ d.files = (files.take n).map full ++ [⟨f.id, c, false⟩] ∧ WPP f.members c)

def AcksOK (d : Disk) : Prop :=
  ∀ a ∈ d.acks, ∃ x ∈ d.files, x.id = a.file ∧ ∃ pre post, x.content = pre ++ a.bytes ++ post ∧ pre.length = a.off

def Good (files : List WFile) (d : Disk) : Prop := ShapeOK files d ∧ AcksOK d

theorem exec_nil (d : Disk) : d.exec [] = d := rfl
theorem exec_cons (d : Disk) (e : Eff) (es : List Eff) : d.exec (e :: es) = (d.apply e).exec es := rfl

theorem exec_append (d : Disk) (a b : List Eff) : d.exec (a ++ b) = (d.exec a).exec b := by
  induction a generalizing d with
  | nil => rfl
  | cons e rest ih => exact ih _

/-- `es` takes the disk from `d` to `d'`, and the property holds at every kill point on the way -/
structure Runs (files : List WFile) (d : Disk) (es : List Eff) (d' : Disk) : Prop where
  prefixes : ∀ k, Good files (d.exec (es.take k))
  exec : d.exec es = d'

theorem Runs.nil {files : List WFile} {d : Disk} (h : Good files d) : Runs files d [] d :=
  ⟨fun k => by simpa [exec_nil] using h, rfl⟩

theorem Runs.cons {files : List WFile} {d d' : Disk} {e : Eff} {es : List Eff} (h : Good files d)
    (ht : Runs files (d.apply e) es d') : Runs files d (e :: es) d' := by
  refine ⟨fun k => ?_, ht.exec⟩
  cases k with
  | zero => simpa [exec_nil] using h
  | succ k => simpa [exec_cons] using ht.prefixes k

theorem Runs.append {files : List WFile} {d d' d'' : Disk} {a b : List Eff} (ha : Runs files d a d') (hb : Runs files d' b d'') :
    Runs files d (a ++ b) d'' := by
  refine ⟨fun k => ?_, by rw [exec_append, ha.exec, hb.exec]⟩
  rw [List.take_append]
  by_cases hk : k ≤ a.length
  · rw [Nat.sub_eq_zero_of_le hk, List.take_zero, List.append_nil]; exact ha.prefixes k
  · rw [List.take_of_length_le (by omega), exec_append, ha.exec]; exact hb.prefixes (k - a.length)

theorem Runs.good {files : List WFile} {d d' : Disk} {es : List Eff} (h : Runs files d es d') : Good files d' := by
  simpa [h.exec] using h.prefixes es.length

/-- the optional fsync changes nothing on disk -/
theorem Runs.sync {files : List WFile} {d : Disk} (h : Good files d) (flush : Bool) :
    Runs files d (if flush then [Eff.sync] else []) d := by
  cases flush
  · exact .nil h
  · exact .cons h (.nil h)

/-- the disk while file `id` is being written: the files `F`, then file `id` with the bytes `c` so far, not yet under its
    final name; `A` are the acknowledgements given -/
def D (F : List DFile) (id : Nat) (c : Bytes) (A : List Ack) : Disk := ⟨F ++ [⟨id, c, false⟩], A⟩

theorem modLast_snoc {α} (l : List α) (x : α) (g : α → α) : modLast (l ++ [x]) g = l ++ [g x] := by
  simp [modLast]

theorem lastId_snoc (l : List DFile) (x : DFile) : lastId (l ++ [x]) = x.id := by simp [lastId]

/-! what the effects on the file being written do to `D` -/

theorem D_byte (F : List DFile) (id : Nat) (c : Bytes) (A : List Ack) (b : UInt8) :
    (D F id c A).apply (.byte b) = D F id (c ++ [b]) A := by simp [D, Disk.apply, modLast_snoc]

/-- the acknowledgement names the file being written -/
theorem D_ack (F : List DFile) (id : Nat) (c : Bytes) (A : List Ack) (tok off : Nat) (bs : Bytes) :
    (D F id c A).apply (.ack tok off bs) = D F id c (A ++ [⟨id, tok, off, bs⟩]) := by simp [D, Disk.apply, lastId_snoc]

/-- close changes nothing on disk, rename makes the file final -/
theorem D_close_rename (F : List DFile) (id : Nat) (c : Bytes) (A : List Ack) :
    ((D F id c A).apply .close).apply .rename = ⟨F ++ [⟨id, c, true⟩], A⟩ := by simp [D, Disk.apply, modLast_snoc]

/-- the bytes `bs` go to the end of the file being written, one kill point after each -/
theorem Runs.bytes {files : List WFile} (F : List DFile) (id : Nat) (c : Bytes) (A : List Ack) (bs : Bytes)
    (h : ∀ j, Good files (D F id (c ++ bs.take j) A)) :
    Runs files (D F id c A) (bs.map Eff.byte) (D F id (c ++ bs) A) := by
  induction bs generalizing c with
  | nil => simpa using Runs.nil (h 0)
  | cons b rest ih =>
    refine .cons (by simpa using h 0) ?_
    rw [D_byte]
    simpa using ih (c ++ [b]) fun j => by simpa using h (j + 1)

/-- behind the whole members `done`, any prefix of the next member `m`: a strict one, or all of `m`, one whole member more -/
theorem WPP.take {ms done rest : List Member} {m : Member} (hms : ms = done ++ m :: rest) (j : Nat) :
    WPP ms (flat done ++ m.bytes.take j) := by
  by_cases hd : m.bytes.drop j = []
  · exact ⟨done ++ [m], rest, [], by simp [hms], by simp [flat_snoc, List.take_of_length_le (List.drop_eq_nil_iff.1 hd)], Or.inl rfl⟩
  · exact ⟨done, m :: rest, _, hms, rfl, Or.inr ⟨m, rest, _, rfl, (List.take_append_drop j m.bytes).symm, hd⟩⟩

/-- acknowledgements stay right when the file being written gets longer or final -/
theorem acks_last (F : List DFile) (x y : DFile) (A : List Ack) (hid : y.id = x.id) (t : Bytes) (hc : y.content = x.content ++ t)
    (h : AcksOK ⟨F ++ [x], A⟩) : AcksOK ⟨F ++ [y], A⟩ := by
  intro a ha
  obtain ⟨z, hz, hzid, pre, post, hzc, hl⟩ := h a ha
  rw [List.mem_append, List.mem_singleton] at hz
  rcases hz with hz | rfl
  · exact ⟨z, by simp [hz], hzid, pre, post, hzc, hl⟩
  · exact ⟨y, by simp, hid.trans hzid, pre, post ++ t, by rw [hc, hzc, List.append_assoc], hl⟩

/-- between files: the files `pre` are complete and final -/
theorem shape_between {files pre post : List WFile} (hsp : files = pre ++ post) (A : List Ack) :
    ShapeOK files ⟨pre.map full, A⟩ :=
  ⟨pre.length, by simp [hsp], Or.inl (by simp [hsp])⟩

/-- while file `f` is written: the files `pre` before it are complete and final -/
theorem shape_mid {files pre post : List WFile} {f : WFile} (hsp : files = pre ++ f :: post) (c : Bytes) (A : List Ack)
    (hw : WPP f.members c) : ShapeOK files (D (pre.map full) f.id c A) :=
  ⟨pre.length, by simp [hsp], Or.inr ⟨f, c, by simp [hsp], by simp [hsp, D], hw⟩⟩

/-- one member of file `f`, written behind the members `done`; `hS` says where on the disk `f` is being written -/
theorem member_run {files : List WFile} {f : WFile} {F : List DFile}
    (hS : ∀ c A, WPP f.members c → ShapeOK files (D F f.id c A)) (flush : Bool)
    (done : List Member) (m : Member) (rest : List Member) (A : List Ack) (hms : f.members = done ++ m :: rest)
    (hA : AcksOK (D F f.id (flat done) A)) :
    ∃ A', Runs files (D F f.id (flat done) A) (memberEffects flush (flat done).length m) (D F f.id (flat done ++ m.bytes) A') := by
  -- bytes: every prefix of m behind `done` is a good disk
  have hshape : ∀ j, Good files (D F f.id (flat done ++ m.bytes.take j) A) := fun j =>
    ⟨hS _ A (.take hms j), acks_last F ⟨f.id, flat done, false⟩ _ A rfl _ rfl hA⟩
  -- sync: the disk with all of m, unchanged by the fsync
  have hafter : Good files (D F f.id (flat done ++ m.bytes) A) := by simpa using hshape m.bytes.length
  -- ack: none for a warcinfo member (`tok = 0`)
  have hack : ∃ A', Runs files (D F f.id (flat done ++ m.bytes) A)
      (if m.tok == 0 then [] else [Eff.ack m.tok (flat done).length m.bytes]) (D F f.id (flat done ++ m.bytes) A') := by
    split
    · exact ⟨A, .nil hafter⟩
    · -- the acknowledgement carries the offset at which m starts, and m lies there: behind `flat done`, nothing after it
      refine ⟨A ++ [⟨f.id, m.tok, (flat done).length, m.bytes⟩], .cons hafter ?_⟩
      rw [D_ack]
      exact .nil ⟨hafter.1, forall_mem_snoc hafter.2 ⟨⟨f.id, flat done ++ m.bytes, false⟩, by simp [D], rfl, flat done, [], by simp, rfl⟩⟩
  obtain ⟨A', hack⟩ := hack
  exact ⟨A', ((Runs.bytes F f.id _ A m.bytes hshape).append (.sync hafter flush)).append hack⟩

theorem members_run {files : List WFile} {f : WFile} {F : List DFile}
    (hS : ∀ c A, WPP f.members c → ShapeOK files (D F f.id c A)) (flush : Bool)
    (todo : List Member) (done : List Member) (A : List Ack) (hms : f.members = done ++ todo)
    (hG : Good files (D F f.id (flat done) A)) :
    ∃ A', Runs files (D F f.id (flat done) A) (membersEffects flush (flat done).length todo) (D F f.id (flat f.members) A') := by
  induction todo generalizing done A with
  | nil => exact ⟨A, by simpa [membersEffects, hms] using Runs.nil hG⟩
  | cons m rest ih =>
    obtain ⟨A1, h1⟩ := member_run hS flush done m rest A hms hG.2
    obtain ⟨A2, h2⟩ := ih (done ++ [m]) A1 (by simp [hms]) (flat_snoc done m ▸ h1.good)
    rw [flat_snoc, List.length_append] at h2
    exact ⟨A2, h1.append h2⟩

/-- running one file: it stays in progress, or ends complete and final -/
theorem file_run {files pre post : List WFile} {f : WFile} (hsp : files = pre ++ f :: post) (flush : Bool) (A : List Ack)
    (hA : AcksOK ⟨pre.map full, A⟩) :
    ∃ A', Runs files ⟨pre.map full, A⟩ (fileEffects flush f)
      (if f.isOpen then D (pre.map full) f.id (flat f.members) A' else ⟨(pre ++ [f]).map full, A'⟩) := by
  have hG0 : Good files (D (pre.map full) f.id (flat []) A) :=
    ⟨shape_mid hsp _ A ⟨[], f.members, [], rfl, rfl, Or.inl rfl⟩, fun a ha => by
      obtain ⟨z, hz, r⟩ := hA a ha
      exact ⟨z, List.mem_append_left _ hz, r⟩⟩
  obtain ⟨A', (hm : Runs files (D (pre.map full) f.id [] A) (membersEffects flush 0 f.members) _)⟩ :=
    members_run (shape_mid hsp) flush f.members [] A rfl hG0
  refine ⟨A', .cons (e := Eff.create f.id) ⟨shape_between hsp A, hA⟩ (hm.append ?_)⟩
  cases f.isOpen with
  | true => exact .nil hm.good
  | false =>
    refine .cons hm.good (.cons hm.good ?_)
    have : ((D (pre.map full) f.id (flat f.members) A').apply Eff.close).apply Eff.rename = ⟨(pre ++ [f]).map full, A'⟩ := by
      simp [D_close_rename, full, content_eq_flat]
    rw [this]
    exact .nil ⟨shape_between (post := post) (by simp [hsp]) A', by
      rw [List.map_append]
      exact acks_last _ ⟨f.id, flat f.members, false⟩ (full f) A' rfl [] (List.append_nil _).symm hm.good.2⟩

theorem files_run (files : List WFile) (flush : Bool) (hclosed : ∀ f ∈ files.dropLast, f.isOpen = false)
    (rest pre : List WFile) (A : List Ack) (hsp : files = pre ++ rest) (hA : AcksOK ⟨pre.map full, A⟩) :
    ∃ d', Runs files ⟨pre.map full, A⟩ (effectLog flush rest) d' := by
  induction rest generalizing pre A with
  | nil => exact ⟨_, .nil ⟨shape_between hsp A, hA⟩⟩
  | cons f rest ih =>
    obtain ⟨A', hf⟩ := file_run hsp flush A hA
    show ∃ d', Runs files _ (fileEffects flush f ++ effectLog flush rest) d'
    cases rest with
    | nil => exact ⟨_, by simpa [effectLog] using hf⟩
    | cons g rest' =>
      -- f is not the last file, so it was closed
      have hfc : f.isOpen = false := hclosed f (by simp [hsp])
      simp only [hfc, Bool.false_eq_true, ↓reduceIte] at hf
      obtain ⟨d', hr⟩ := ih (pre ++ [f]) A' (by simp [hsp]) hf.good.2
      exact ⟨d', hf.append hr⟩

/-- **shape and acknowledgements at every kill point** -/
theorem C12_all (flush : Bool) (files : List WFile) (hclosed : ∀ f ∈ files.dropLast, f.isOpen = false) (k : Nat) :
    Good files (crashDisk flush files k) :=
  (files_run files flush hclosed files [] [] rfl (by intro a ha; cases ha)).elim fun _ h => h.prefixes k

theorem C12_shape (flush : Bool) (files : List WFile) (hclosed : ∀ f ∈ files.dropLast, f.isOpen = false) (k : Nat) :
    ShapeOK files (crashDisk flush files k) := (C12_all flush files hclosed k).1

/-- every record whose Write had returned is fully present in its file at its reported offset -/
theorem C12_acked (flush : Bool) (files : List WFile) (hclosed : ∀ f ∈ files.dropLast, f.isOpen = false) (k : Nat) :
    AcksOK (crashDisk flush files k) := (C12_all flush files hclosed k).2

/-- what a file on a well-shaped disk is: one of the writer's files, complete and final, or an in-progress prefix of one -/
theorem ShapeOK.mem {files : List WFile} {d : Disk} (h : ShapeOK files d) (x : DFile) (hx : x ∈ d.files) :
    (∃ f ∈ files, x = full f) ∨ ∃ f ∈ files, x = ⟨f.id, x.content, false⟩ ∧ WPP f.members x.content := by
  have hfull : ∀ n, x ∈ (files.take n).map full → ∃ f ∈ files, x = full f := fun n hx => by
    obtain ⟨f, hfm, rfl⟩ := List.mem_map.mp hx
    exact ⟨f, List.mem_of_mem_take hfm, rfl⟩
  obtain ⟨n, _, h | ⟨f, c, hn, h, hw⟩⟩ := h <;> rw [h] at hx
  · exact Or.inl (hfull n hx)
  · rw [List.mem_append, List.mem_singleton] at hx
    rcases hx with hx | rfl
    · exact Or.inl (hfull n hx)
    · exact Or.inr ⟨f, List.mem_of_getElem? hn, rfl, hw⟩

/-- a file under its final name is complete: it is one of the writer's files with all of its members -/
theorem C12_final_complete (flush : Bool) (files : List WFile) (hclosed : ∀ f ∈ files.dropLast, f.isOpen = false) (k : Nat)
    (x : DFile) (hx : x ∈ (crashDisk flush files k).files) (hf : x.final = true) :
    ∃ f ∈ files, x = full f := by
  rcases (C12_shape flush files hclosed k).mem x hx with h | ⟨f, _, e, _⟩
  · exact h
  · rw [e] at hf; cases hf

/-- an in-progress file consists of whole records followed by at most one partial record -/
theorem C12_open (flush : Bool) (files : List WFile) (hclosed : ∀ f ∈ files.dropLast, f.isOpen = false) (k : Nat)
    (x : DFile) (hx : x ∈ (crashDisk flush files k).files) (hf : x.final = false) :
    ∃ f ∈ files, x.id = f.id ∧ WPP f.members x.content := by
  rcases (C12_shape flush files hclosed k).mem x hx with ⟨f, _, rfl⟩ | ⟨f, hfm, e, hw⟩
  · cases hf
  · exact ⟨f, hfm, by rw [e], hw⟩

/-! ### non-vacuity -/
def exFiles : List WFile :=
  [⟨1, [⟨0, [9, 9], none⟩, ⟨1, [1, 2, 3], some 1⟩], false⟩, ⟨2, [⟨0, [9, 9], none⟩, ⟨2, [4, 5], some 2⟩], true⟩]
example : (crashDisk true exFiles 5).files = [⟨1, [9, 9, 1], false⟩] := by decide
example : (crashDisk true exFiles 14).files = [⟨1, [9, 9, 1, 2, 3], true⟩, ⟨2, [9, 9], false⟩] := by decide
example : ((crashDisk true exFiles 14).acks.map (fun a => (a.file, a.tok, a.off))) = [(1, 1, 2)] := by decide
example : ∀ f ∈ exFiles.dropLast, f.isOpen = false := by decide

end Gowarc.Props.C12
