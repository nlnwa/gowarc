/-
  C06 — Truncated files: complete records survive and the cut is visible.

  Model: `readLoop` / `readAllRecs` (Model/Reader.lean): WarcFileReader.Next in a loop over `unmarshal`.
  Tie: correspondence kind `cuts` — EVERY prefix (cut 0 … length) of generated well-formed multi-record files, plain and
  per-record gzip, warn and strict policy, several spill thresholds, is read by the implementation and by the model, and
  the three clauses of the property are judged on the implementation for every cut.

  Theorems (about the real model functions):
  * `C06_survive` — complete records survive whatever follows them: if every member of a file reads as a clean record
    for every continuation of the stream (the codec law: what C01 states for one record), then reading the members
    followed by ANY tail — in particular the cut remainder of the next record — returns exactly those records, clean,
    at their offsets, and then whatever reading the tail alone returns. No bound on the number or size of records.
  * `C06_short_tail`, `C06_cut_version_line` — the cut is visible at the two places where visibility rests on the
    reader's own framing: fewer than five bytes left (io.EOF at the offset where they start, which is smaller than the
    stream length) and a cut inside the version line (same).
  Not proved here: the codec law itself for all marshalled records (C01's composition) and visibility for cuts inside
  the header and block of the model's full `unmarshal`; both are covered by the exhaustive cut enumeration.
-/
import Gowarc.Model.Reader
import Gowarc.Lemmas.Runs
import Gowarc.Props.C01
namespace Gowarc.Props.C06
open Gowarc.Props.C01

variable (H : Alg → Bytes → Bytes)

/-- the member `m`, placed at stream position `base`, reads as the clean record `r` whatever follows it -/
def ReadsAs (o : Opts) (Ω : Oracles) (base : Nat) (m : Bytes) (r : Rec) : Prop :=
  ∀ (rest : Bytes) (fault : Bool),
    (unmarshal H o Ω ⟨m ++ rest, fault⟩).err = none ∧
    (unmarshal H o Ω ⟨m ++ rest, fault⟩).record = some r ∧
    (unmarshal H o Ω ⟨m ++ rest, fault⟩).offset = 0 ∧
    (unmarshal H o Ω ⟨m ++ rest, fault⟩).fnd = [] ∧
    (unmarshal H o Ω ⟨m ++ rest, fault⟩).rest = rest

/-- every member of the list reads as its record at the position where it lies -/
def AllReadAs (o : Opts) (Ω : Oracles) : Nat → List (Bytes × Rec) → Prop
  | _, [] => True
  | base, (m, r) :: ms => ReadsAs H o Ω base m r ∧ AllReadAs o Ω (base + m.length) ms

/-- the items `C06_survive` promises for the members: each record, clean, at the position where its member lies -/
def cleanItems : Nat → List (Bytes × Rec) → List NextRes
  | _, [] => []
  | base, (m, r) :: ms => ⟨base, some r, [], none⟩ :: cleanItems (base + m.length) ms

/-- the number of bytes the members take together -/
def totalLen (ms : List (Bytes × Rec)) : Nat := ((ms.map (·.1)).flatten).length

theorem cleanItems_cons (base : Nat) (m : Bytes) (r : Rec) (ms : List (Bytes × Rec)) :
    cleanItems base ((m, r) :: ms) = ⟨base, some r, [], none⟩ :: cleanItems (base + m.length) ms := rfl

theorem totalLen_cons (mr : Bytes × Rec) (ms : List (Bytes × Rec)) : totalLen (mr :: ms) = mr.1.length + totalLen ms := by
  simp [totalLen]

/-- a round on a member that reads as a clean record: its item, and the loop goes on behind the member -/
theorem readLoop_member {o : Opts} {Ω : Oracles} {base : Nat} {m : Bytes} {r : Rec} (hm : ReadsAs H o Ω base m r)
    (fuel : Nat) (rest : Bytes) (fault : Bool) :
    readLoop H o Ω (fuel + 1) base ⟨m ++ rest, fault⟩ =
      ⟨base, some r, [], none⟩ :: readLoop H o Ω fuel (base + m.length) ⟨rest, fault⟩ := by
  obtain ⟨e1, e2, e3, e4, e5⟩ := hm rest fault
  rw [readLoop_succ H fuel base e1, e2, e3, e4, e5, Nat.add_zero, List.length_append, Nat.add_sub_cancel]

/-- **complete records survive**: members that read as clean records are returned, unaltered and without findings, at
    their offsets, whatever tail follows; reading then continues on the tail alone -/
theorem C06_survive (o : Opts) (Ω : Oracles) (ms : List (Bytes × Rec)) (base : Nat) (tail : Bytes) (fault : Bool) (fuel : Nat)
    (hall : AllReadAs H o Ω base ms) :
    readLoop H o Ω (fuel + ms.length) base ⟨(ms.map (·.1)).flatten ++ tail, fault⟩ =
      cleanItems base ms ++ readLoop H o Ω fuel (base + totalLen ms) ⟨tail, fault⟩ := by
  induction ms generalizing base with
  | nil => rfl
  | cons mr ms ih =>
    obtain ⟨m, r⟩ := mr
    obtain ⟨hm, hms⟩ := hall
    rw [List.length_cons, ← Nat.add_assoc, List.map_cons, List.flatten_cons, List.append_assoc, readLoop_member H hm,
      ih _ hms, cleanItems_cons, totalLen_cons, Nat.add_assoc, List.cons_append]

/-- in particular for a cut file: the complete records, then the outcome of reading the partial record alone -/
theorem C06_survive_cut (o : Opts) (Ω : Oracles) (ms : List (Bytes × Rec)) (next : Bytes) (k : Nat) (fuel : Nat)
    (hall : AllReadAs H o Ω 0 ms) :
    readLoop H o Ω (fuel + ms.length) 0 ⟨(ms.map (·.1)).flatten ++ next.take k, false⟩ =
      cleanItems 0 ms ++ readLoop H o Ω fuel (totalLen ms) ⟨next.take k, false⟩ := by
  have := C06_survive H o Ω ms 0 (next.take k) false fuel hall
  simpa using this

/-- a stream on which Unmarshal finds the end of the stream at once: reading it yields that one item, at `base` -/
theorem readLoop_eof {o : Opts} {Ω : Oracles} (fuel base : Nat) {p : Bytes}
    (hu : unmarshal H o Ω ⟨p, false⟩ = ⟨none, 0, [], some .eof, []⟩) :
    ∃ it, readLoop H o Ω (fuel + 1) base ⟨p, false⟩ = [it] ∧ it.err = some .eof ∧ it.record = none ∧ it.offset = base :=
  ⟨⟨base + 0, none, [], some .eof⟩, by rw [readLoop_err H fuel base (congrArg URes.err hu), hu], rfl, rfl, rfl⟩

/-- **visible, short tail**: with one to four bytes left the reader reports io.EOF at the offset where they start —
    an end-of-file offset smaller than the stream length -/
theorem C06_short_tail (o : Opts) (Ω : Oracles) (fuel base : Nat) (tail : Bytes) (h1 : tail ≠ []) (h5 : tail.length < 5) :
    ∃ it, readLoop H o Ω (fuel + 1) base ⟨tail, false⟩ = [it] ∧ it.err = some .eof ∧ it.record = none ∧
      it.offset = base ∧ it.offset < base + tail.length := by
  obtain ⟨it, h, he, hr, ho⟩ := readLoop_eof H fuel base (unmarshal_short_eq H o Ω tail false h5)
  exact ⟨it, h, he, hr, ho, by have := List.length_pos_iff.mpr h1; omega⟩

/-- **visible, cut inside the version line**: a plain record cut before the end of its first line is reported as
    io.EOF at the offset where the partial record starts -/
theorem C06_cut_version_line (o : Opts) (Ω : Oracles) (fuel base : Nat) (after : Bytes) (hnl : LF ∉ after) :
    ∃ it, readLoop H o Ω (fuel + 1) base ⟨bs "WARC/" ++ after, false⟩ = [it] ∧ it.err = some .eof ∧ it.record = none ∧
      it.offset = base ∧ it.offset < base + (bs "WARC/" ++ after).length := by
  obtain ⟨it, h, he, hr, ho⟩ := readLoop_eof H fuel base (unmarshal_cut_version_eq H o Ω after false hnl)
  exact ⟨it, h, he, hr, ho, by simp [bs, ho]⟩

/-- **visible, anywhere behind the header section**: whatever the header fields and the remaining stream are, if the
    spec policy is warn or fail and Unmarshal gets as far as returning a record without error, then either the record
    trailer CR LF CR LF stood completely in the stream right behind the declared block — the record was not cut — or the
    returned validation contains the trailer finding. (Under fail the trailer site returns the error instead.) -/
theorem C06_trailer_or_finding (o : Opts) (Ω : Oracles) (vt : Bytes) (vi : Nat) (fs : Fields) (s' : Stream) (st st' : St)
    (r : Option Rec) (rest : Bytes) (hspec : o.spec ≠ .ignore)
    (h : unmarshalTail H o Ω vt vi fs s' st = (.ok (r, rest), st')) :
    ((if contentLengthOf fs < 0 then [] else s'.rest.drop (contentLengthOf fs).toNat).take 4 = crlfcrlf) ∨ Tag.specTrailer ∈ st'.fnd :=
  (unmarshalTail_out H h).2.2 hspec

end Gowarc.Props.C06
