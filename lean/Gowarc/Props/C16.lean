/-
  C16 — Block accessors give the same answers in any call order.

  Model: `BlkSt.step` (Model/BlockSM.lean), the lazy digest state machine of genericBlock / httpRequestBlock /
  httpResponseBlock. Tie: correspondence kind `block` on blocks constructed directly over cached and one-shot sources and
  on blocks of built and parsed records, with arbitrary accessor sequences and drain amounts; exhaustive sequences of
  length ≤ 4 in the thorough tier.
-/
import Gowarc.Model.BlockSM
namespace Gowarc.Props.C16
open BlkSt

/-- what every reachable state satisfies -/
structure Inv (s : BlkSt) : Prop where
  pos_le : s.pos ≤ s.payload.length
  frozen_all : s.frozen = true → s.pos = s.payload.length ∧ s.filt = true
  fresh : s.filt = false → s.pos = 0

/-- blocks as the library creates them: nothing consumed yet … -/
theorem inv_fresh (head payload : Bytes) (isHttp cached : Bool) :
    Inv ⟨head, payload, isHttp, cached, false, 0, false⟩ :=
  ⟨Nat.zero_le _, fun h => by simp at h, fun _ => rfl⟩

/-- … or, for records returned by Build / Unmarshal, cached with the digests complete -/
theorem inv_api (head payload : Bytes) (isHttp : Bool) :
    Inv ⟨head, payload, isHttp, true, true, payload.length, true⟩ :=
  ⟨Nat.le_refl _, fun _ => ⟨rfl, rfl⟩, fun h => by simp at h⟩

/-- BlockDigest touches neither the data nor the source -/
theorem doDigest_data (s : BlkSt) :
    (doDigest s).head = s.head ∧ (doDigest s).payload = s.payload ∧ (doDigest s).cached = s.cached := by
  unfold doDigest; split <;> exact ⟨rfl, rfl, rfl⟩

/-- in a reachable state BlockDigest has one result, frozen before or not: a frozen state has the filter in place and
    has delivered everything already -/
theorem doDigest_eq {s : BlkSt} (h : Inv s) :
    doDigest s = { s with filt := true, pos := s.payload.length, frozen := true } := by
  unfold doDigest
  split
  · next hf =>
    obtain ⟨hp, hfl⟩ := h.frozen_all hf
    cases s
    simp only [BlkSt.mk.injEq, true_and]
    exact ⟨hfl, hp, hf⟩
  · rfl

theorem doDigest_inv (s : BlkSt) (h : Inv s) : Inv (doDigest s) := by
  rw [doDigest_eq h]
  exact ⟨Nat.le_refl _, fun _ => ⟨rfl, rfl⟩, fun hf => by simp at hf⟩

/-- the state after a content access is the one after BlockDigest, except at the first access, which installs the
    filter and lets the caller read on from where the source stands -/
theorem payloadAccess_fst (s : BlkSt) (d : Nat) :
    (payloadAccess s d).1 =
      if s.filt then doDigest s else { s with filt := true, pos := s.pos + min d (s.payload.length - s.pos) } := by
  unfold payloadAccess
  cases s.filt
  · rfl
  · simp only [Bool.not_true, Bool.false_eq_true, if_false, if_true]; split <;> rfl

/-- what the caller of a content access gets: the first reads on from where the source stands, a later one reads from
    the start if the source can seek and fails if not -/
theorem payloadAccess_snd (s : BlkSt) (d : Nat) :
    (payloadAccess s d).2 =
      if s.filt then (if s.cached then some (s.payload.take d) else none) else some ((s.payload.drop s.pos).take d) := by
  unfold payloadAccess
  rw [(doDigest_data s).2.2]
  cases s.filt <;> cases s.cached <;> rfl

theorem payloadAccess_inv (s : BlkSt) (d : Nat) (h : Inv s) : Inv (payloadAccess s d).1 := by
  rw [payloadAccess_fst]
  split
  · exact doDigest_inv s h
  · next hf =>
    -- no filter yet, so not frozen
    refine ⟨?_, fun hfr => absurd (h.frozen_all hfr).2 hf, fun hf' => by simp at hf'⟩
    have := h.pos_le; simp only; omega

theorem payloadAccess_data (s : BlkSt) (d : Nat) :
    (payloadAccess s d).1.head = s.head ∧ (payloadAccess s d).1.payload = s.payload := by
  rw [payloadAccess_fst]
  split
  · exact ⟨(doDigest_data s).1, (doDigest_data s).2.1⟩
  · exact ⟨rfl, rfl⟩

theorem payloadAccess_filt (s : BlkSt) (d : Nat) (h : Inv s) : (payloadAccess s d).1.filt = true := by
  rw [payloadAccess_fst]
  split
  · rw [doDigest_eq h]
  · rfl

/-- the four states an accessor can leave behind: the same, the one after BlockDigest, the one after a content access,
    and — for Cache on a source that had not been touched — that one with the whole payload delivered and cached -/
theorem step_ind {P : BlkSt → Prop} (s : BlkSt) (op : BOp) (h0 : P s) (h1 : P (doDigest s))
    (h2 : ∀ d, P (payloadAccess s d).1)
    (h3 : P { (payloadAccess s s.payload.length).1 with cached := true, frozen := true, pos := s.payload.length }) :
    P (step s op).1 := by
  cases op with
  | blockDigest => exact h1
  | payloadDigest => exact h1
  | size => exact h1
  | isCached => exact h0
  | cache =>
    simp only [step]
    split
    · exact h0
    · split
      · exact h2 _
      · exact h3
  | rawBytes d => simp only [step]; split <;> exact h2 _
  | payloadBytes d => simp only [step]; split <;> exact h2 _

theorem step_inv (s : BlkSt) (op : BOp) (h : Inv s) : Inv (step s op).1 := by
  refine step_ind s op h (doDigest_inv s h) (fun d => payloadAccess_inv s d h) ?_
  -- the whole payload went through the filter
  have hpl := (payloadAccess_data s s.payload.length).2
  have hfl := payloadAccess_filt s s.payload.length h
  exact ⟨by simp only [hpl]; exact Nat.le_refl _, fun _ => ⟨by simp only [hpl], hfl⟩, fun hf => by simp [hfl] at hf⟩

theorem step_data (s : BlkSt) (op : BOp) : (step s op).1.head = s.head ∧ (step s op).1.payload = s.payload :=
  step_ind (P := fun t => t.head = s.head ∧ t.payload = s.payload) s op ⟨rfl, rfl⟩
    ⟨(doDigest_data s).1, (doDigest_data s).2.1⟩ (payloadAccess_data s) (payloadAccess_data s _)

/-- **digests and size always describe the complete block**, whatever was called before, in any order -/
theorem C16_digest_size (s : BlkSt) (h : Inv s) :
    (step s .blockDigest).2 = .digest s.full ∧ (step s .payloadDigest).2 = .digest s.payload ∧
    (step s .size).2 = .size s.full.length := by
  simp only [step, fedBlock, fedPayload, doDigest_eq h, full, List.take_length, and_self]

/-- **every reader obtained from a cached block yields the identical bytes from the start** (a caller draining `d` bytes
    gets the first `d` bytes of the complete block / payload), any number of times -/
theorem C16_cached_reads (s : BlkSt) (d : Nat) (h : Inv s) (hc : s.cached = true) :
    (step s (.rawBytes d)).2 = .bytes (s.full.take d) ∧ (step s (.payloadBytes d)).2 = .bytes (s.payload.take d) := by
  -- whatever was read before: an untouched source stands at the start
  have hacc : ∀ d, (payloadAccess s d).2 = some (s.payload.take d) := fun d => by
    rw [payloadAccess_snd, hc, if_pos rfl]
    split
    · rfl
    · next hf => rw [h.fresh (by simpa using hf), List.drop_zero]
  simp only [step, hacc, full, List.take_append, and_self]

/-- **a further content access on an uncached block fails with the explicit error** (and so does Cache after a read) -/
theorem C16_uncached_once (s : BlkSt) (d : Nat) (h : Inv s) (hu : s.cached = false) (hf : s.filt = true) :
    (step s (.rawBytes d)).2 = .errReaccessed ∧ (step s (.payloadBytes d)).2 = .errReaccessed ∧
    (step s .cache).2 = .errReaccessed := by
  -- holds in every state: `h` is not needed
  refine ⟨?_, ?_, ?_⟩ <;> simp [step, payloadAccess_snd, hf, hu]

/-- Cache on an untouched uncached block succeeds and makes it cached; on a cached block it is a no-op -/
theorem C16_cache (s : BlkSt) (hfresh : s.filt = false) (hu : s.cached = false) :
    (step s .cache).2 = .ok ∧ (step s .cache).1.cached = true ∧ (step s .cache).1.frozen = true := by
  simp [step, payloadAccess_snd, hfresh, hu]

/-- lifted over arbitrary accessor sequences: every state reached satisfies the invariant -/
theorem C16_reachable (s : BlkSt) (ops : List BOp) (h : Inv s) : Inv (ops.foldl (fun st op => (step st op).1) s) := by
  induction ops generalizing s with
  | nil => exact h
  | cons op rest ih => exact ih _ (step_inv s op h)

theorem foldl_full (s : BlkSt) (ops : List BOp) : (ops.foldl (fun st op => (step st op).1) s).full = s.full := by
  induction ops generalizing s with
  | nil => rfl
  | cons op rest ih => rw [List.foldl_cons, ih, full, (step_data s op).1, (step_data s op).2]; rfl

/-- **C16**: after ANY sequence of accessor calls (with readers drained fully, partly or not at all), digests and size
    describe the complete block, and a cached block still reads completely from the start -/
theorem C16_any_order (s : BlkSt) (ops : List BOp) (h : Inv s) :
    let s' := ops.foldl (fun st op => (step st op).1) s
    (step s' .blockDigest).2 = .digest s.full ∧ (step s' .size).2 = .size s.full.length ∧
    (s'.cached = true → ∀ d, (step s' (.rawBytes d)).2 = .bytes (s.full.take d)) := by
  intro s'
  have hinv := C16_reachable s ops h
  have hfull : s'.full = s.full := foldl_full s ops
  have := C16_digest_size s' hinv
  refine ⟨by rw [this.1, hfull], by rw [this.2.2, hfull], fun hc d => ?_⟩
  rw [(C16_cached_reads s' d hinv hc).1, hfull]

/-- non-vacuity: an uncached http block, partial read, digest, then the second access fails and Cache fails; the digest
    still describes everything -/
example : BlkSt.run ⟨bs "HEAD\r\n\r\n", bs "payload", true, false, false, 0, false⟩
    [.rawBytes 10, .blockDigest, .size, .payloadBytes 3, .cache, .isCached] =
    [.bytes (bs "HEAD\r\n\r\npa"), .digest (bs "HEAD\r\n\r\npayload"), .size 15, .errReaccessed, .errReaccessed, .flag false] := by decide +kernel

end Gowarc.Props.C16
