/-
  C07, last sentence: "Under every policy the complete declared block can be read once from the returned record, or an
  explicit error is returned - it is never silently empty or shortened."

  Proved here for the case in which the block is cut short by a READ ERROR (the stream ends in a fault, not in EOF, before
  the declared number of bytes was delivered): under EVERY policy setting and every option, Unmarshal returns an error —
  never a record. Every block kind has its own place where the fault surfaces:
    generic and HTTP blocks  : ValidateDigest caches the block and meets the error;
    revisit blocks           : the block constructor reads the protocol header itself;
    warc-fields blocks       : the constructor reports it through the SYNTAX policy (so under ignore it is dropped there),
                               and the drain of the block behind ValidateDigest meets it again.
  Removing that last step (seed C07-h) falsifies the theorem for warc-fields blocks under syntax = ignore.
-/
import Gowarc.Lemmas.Inversion
namespace Gowarc.Props.C07

/-- with a failing content reader the block parser never hands out a revisit block -/
theorem parseBlock_fault_kind (o : Opts) (Ω : Oracles) (rt : Nat) (c : Bytes) (s s' : St) (b : Block)
    (h : parseBlock o Ω rt c true s = (.ok b, s')) :
    b.kind = .httpResp ∨ b.kind = .httpReq ∨ b.kind = .warcFields ∨ b.kind = .generic := by
  obtain ⟨bd, pd, -, -, hh | ⟨hf, -⟩ | hw | ⟨-, rfl⟩⟩ := parseBlock_ok h
  · rw [(newHttpBlock_ok hh).1]
    split
    · exact .inl rfl
    · exact .inr (.inl rfl)
  · cases hf
  · obtain ⟨-, -, -, raw, rfl⟩ := newWarcFieldsBlock_ok hw
    exact .inr (.inr (.inl rfl))
  · exact .inr (.inr (.inr rfl))

variable (H : Alg → Bytes → Bytes)

/-- ValidateDigest meets the read error of every block it has to cache -/
theorem validateDigest_fault (o : Opts) (rt : Nat) (b : Block) (s s' : St)
    (hk : b.kind = .generic ∨ b.kind = .httpReq ∨ b.kind = .httpResp)
    (h : validateDigest H o rt b true s = (.ok (), s')) : False := by
  have := (validateDigest_ok H h).2.1
  rcases hk with e | e | e <;> simp [e] at this

/-- **a block cut short by a read error is never handed out**: the stream fails (not: ends) before the declared block
    is complete ⇒ Unmarshal returns an error under every policy and option setting -/
theorem C07_fault_explicit (o : Opts) (Ω : Oracles) (vt : Bytes) (vi : Nat) (fs : Fields) (s' : Stream) (st st' : St)
    (r : Option Rec) (rest : Bytes) (hf : s'.fault = true)
    (hshort : contentLengthOf fs < 0 ∨ s'.rest.length < (contentLengthOf fs).toNat) :
    unmarshalTail H o Ω vt vi fs s' st ≠ (.ok (r, rest), st') := by
  intro h0
  obtain ⟨rt, s2, b, s4, s5, -, -, h4, h5, hwf, -, -, -⟩ := unmarshalTail_ok H h0
  have hcf : blockFault fs s' = true := by
    unfold blockFault
    rcases hshort with e | e <;> simp [hf, e]
  rw [hcf] at h4 h5 hwf
  -- every block kind has its place where the fault surfaces
  rcases parseBlock_fault_kind o Ω rt _ s2 s4 b h4 with e | e | e | e
  · exact validateDigest_fault H o rt b s4 s5 (.inr (.inr e)) h5
  · exact validateDigest_fault H o rt b s4 s5 (.inr (.inl e)) h5
  · simp [e] at hwf
  · exact validateDigest_fault H o rt b s4 s5 (.inl e) h5

end Gowarc.Props.C07
