/-
  The tie of the Unmarshal model to the source text of unmarshaler.go, regenerated on every run.
  `./check` audits each property within its own namespace, so the obligation has a name in the namespace of every property
  that rests on this model; all of them are the one `rfl`.
-/
import Gowarc.Gen.UnmarshalSkeleton
import Gowarc.Model.UnmarshalSkeleton
namespace Gowarc.Props.C05
theorem C05_unmarshal_skeleton : Gowarc.Gen.unmarshalSkeleton = Gowarc.expectedUnmarshalSkeleton := rfl
end Gowarc.Props.C05
namespace Gowarc.Props.C06
theorem C06_unmarshal_skeleton : Gowarc.Gen.unmarshalSkeleton = Gowarc.expectedUnmarshalSkeleton := Gowarc.Props.C05.C05_unmarshal_skeleton
end Gowarc.Props.C06
namespace Gowarc.Props.C07
theorem C07_unmarshal_skeleton : Gowarc.Gen.unmarshalSkeleton = Gowarc.expectedUnmarshalSkeleton := Gowarc.Props.C05.C05_unmarshal_skeleton
end Gowarc.Props.C07
namespace Gowarc.Props.C08
theorem C08_unmarshal_skeleton : Gowarc.Gen.unmarshalSkeleton = Gowarc.expectedUnmarshalSkeleton := Gowarc.Props.C05.C05_unmarshal_skeleton
end Gowarc.Props.C08
