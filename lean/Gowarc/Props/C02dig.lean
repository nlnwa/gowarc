/-
  C02, "under every error-policy setting": the digests the builder adds itself.

  When the caller declared no WARC-Block-Digest (no WARC-Payload-Digest) and the add-missing-digest option is on (the
  default), every record Build returns without error — under EVERY policy setting, spec checking off included, and every
  repair option — carries

    WARC-Block-Digest   = name ":" encode(H alg (exactly the block bytes that get serialized))
    WARC-Payload-Digest = name ":" encode(H alg (exactly the payload bytes))      (block kinds with a payload; not for
                                                                                   revisit records / segmented records)

  in the configured default algorithm and encoding. `C02_build_truthful` / `C02_validate_payload` need spec checking on;
  this theorem follows the two fields from the header the caller handed in to the header of the returned record.
-/
import Gowarc.Lemmas.Inversion
import Gowarc.Lemmas.Preserves
import Gowarc.Lemmas.FieldsLemmas
import Gowarc.Lemmas.Names
import Gowarc.Lemmas.DigestDetect
namespace Gowarc.Props.C02
open Gowarc.Names

/-! ### steps that leave every field other than Content-Length alone -/

structure OnlyCL {α} (m : M α) : Prop where
  h : ∀ s k, canon k ≠ canon (bs "Content-Length") →
    (m s).2.hdr.has k = s.hdr.has k ∧ (m s).2.hdr.get k = s.hdr.get k

namespace OnlyCL
theorem of_preserves {α} {m : M α}
    (h : ∀ k x v, canon k ≠ canon (bs "Content-Length") → Preserves (fun s => s.hdr.has k = x ∧ s.hdr.get k = v) m) : OnlyCL m :=
  ⟨fun s k hk => h k _ _ hk s ⟨rfl, rfl⟩⟩

theorem has_eq {α} {m : M α} (hm : OnlyCL m) {s s' : St} {r : Except Tag α} (h : m s = (r, s')) {k : Bytes}
    (hk : canon k ≠ canon (bs "Content-Length")) : s'.hdr.has k = s.hdr.has k := by
  have := (hm.h s k hk).1; rw [h] at this; exact this

theorem setCL (c : Bool) (f : Fields → Int) : OnlyCL (do let h ← M.hdr; M.setHdr (if c then setInt h (bs "Content-Length") (f h) else h)) := by
  constructor
  intro s k hk
  split
  · unfold setInt; exact ⟨has_set_other hk, get_set_other hk⟩
  · exact ⟨rfl, rfl⟩
end OnlyCL

theorem parseBlock_onlyCL (o : Opts) (Ω : Oracles) (rt : Nat) (c : Bytes) (fault : Bool) : OnlyCL (parseBlock o Ω rt c fault) :=
  .of_preserves fun k _ _ hk => parseBlock_preserves (fun _ _ _ h => h) fun _ v s hs => by
    show (s.hdr.set _ v).has k = _ ∧ (s.hdr.set _ v).get k = _
    rw [has_set_other hk, get_set_other hk]; exact hs

/-- the block's digest objects come from the two digest fields of the header (or the configured default) -/
theorem parseBlock_digests (o : Opts) (Ω : Oracles) (rt : Nat) (c : Bytes) (fault : Bool) (s s' : St) (b : Block)
    (h : parseBlock o Ω rt c fault s = (.ok b, s')) :
    digestOfField o s.hdr (bs "WARC-Block-Digest") = some b.blockDigest ∧
    ∀ pd, b.payloadDigest = some pd → digestOfField o s.hdr (bs "WARC-Payload-Digest") = some pd := by
  obtain ⟨bd, pd, hbd, hpd, hh | ⟨-, -, rfl⟩ | hw | ⟨-, rfl⟩⟩ := parseBlock_ok h
  · rw [(newHttpBlock_ok hh).1]
    exact ⟨hbd, fun _ e => by cases e; exact hpd⟩
  · exact ⟨hbd, nofun⟩
  · obtain ⟨-, -, -, raw, rfl⟩ := newWarcFieldsBlock_ok hw
    exact ⟨hbd, nofun⟩
  · exact ⟨hbd, fun q e => (plainBlock_payloadDigest _ _ _ _ _ bd pd e).1 ▸ hpd⟩

/-- a configured default algorithm without a colon yields a digest object without a declared value -/
theorem newDigest_default_empty (s : Bytes) (dflt : Enc) (d : Digest) (hc : COLON ∉ s) (h : newDigest s dflt = some d) :
    d.hash = [] := by
  rw [newDigest_eq, digestParts, splitFirst_none COLON s hc] at h
  rw [(digestOf_some h).2.2]
  cases d.enc <;> rfl

variable (H : Alg → Bytes → Bytes)

/-- **the digests the builder adds are the digests of the serialized block and of its payload, under every policy**:
    the caller declared neither digest field, add-missing-digest is on, the configured default algorithm is one
    `newDigest` knows (`d0`) and contains no colon. Then for every policy setting, every repair option, every block kind
    and content, a record Build returns without error has WARC-Block-Digest = `d0.format` of exactly `r.block.raw`, and —
    when the block has a payload, the record is not a revisit and not segmented — WARC-Payload-Digest = `d0.format` of
    exactly `r.block.payload` -/
theorem C02_digests_every_policy (o : Opts) (Ω : Oracles) (verTxt : Bytes) (verId rt0 : Nat) (hdr : Fields) (content newId : Bytes) (r : Rec)
    (hadd : o.addMissingDigest = true)
    (d0 : Digest) (hd0 : newDigest o.defaultAlg o.defaultEnc = some d0) (hcolon : COLON ∉ o.defaultAlg)
    (hnoBD : hdr.has (bs "WARC-Block-Digest") = false) (hnoPD : hdr.has (bs "WARC-Payload-Digest") = false)
    (hb : (build H o Ω verTxt verId rt0 hdr content newId).record = some r)
    (he : (build H o Ω verTxt verId rt0 hdr content newId).err = none) :
    r.hdr.get (bs "WARC-Block-Digest") = d0.format H r.block.raw ∧
    (∀ pd, r.block.payloadDigest = some pd → (r.rt == RT_Revisit) = false → hdr.has (bs "WARC-Segment-Number") = false →
      r.hdr.get (bs "WARC-Payload-Digest") = d0.format H r.block.payload) := by
  have hd0e : d0.hash = [] := newDigest_default_empty _ _ _ hcolon hd0
  obtain ⟨sd, hbody⟩ := build_ok H hb
  obtain ⟨rtv, b, s1, s2, -, k1, hp, hd, rfl⟩ := buildBody_ok H hbody
  -- the header validation starts from: neither the record id nor the Content-Length Build adds is one of the three fields
  have hprep : ∀ k, canon k ≠ canon (bs "WARC-Record-ID") → canon k ≠ canon (bs "Content-Length") → s1.hdr.has k = hdr.has k :=
    fun k h1 h2 => by rw [k1]; exact has_builderHdr_other o hdr content newId k h1 h2
  -- both digest objects are the configured default
  obtain ⟨hbdo, hpdo⟩ := parseBlock_digests o Ω _ content false s1 s2 b hp
  have hdef : ∀ f, hdr.has f = false → canon f ≠ canon (bs "WARC-Record-ID") → canon f ≠ canon (bs "Content-Length") →
      digestOfField o s1.hdr f = some d0 := by
    intro f hf h1 h2
    rw [digestOfField_absent (by rw [hprep f h1 h2, hf])]; exact hd0
  have hbd : b.blockDigest = d0 := by
    have := hdef _ hnoBD BD_ne_ID CL_ne_BD.symm
    rw [hbdo] at this; exact Option.some.inj this
  have hseg : (s2.hdr.setIf (builderAddsCL o hdr newId && b.kind == .warcFields && b.raw.length != content.length)
      (bs "Content-Length") (intToDec b.raw.length)).has (bs "WARC-Segment-Number") = hdr.has (bs "WARC-Segment-Number") := by
    rw [has_setIf_other Seg_ne_CL, ← hprep _ Seg_ne_ID Seg_ne_CL]
    exact (parseBlock_onlyCL _ _ _ _ _).has_eq hp Seg_ne_CL
  rw [(validateDigest_ok H hd).1]
  refine ⟨?_, fun pd hpd hnr hs => ?_⟩
  · rw [get_validatedHdr_block, digestWrites_missing H _ (by rw [hbd]; exact hd0e) hadd, hbd]; rfl
  · have hpdd : pd = d0 := by
      have := hdef _ hnoPD PD_ne_ID CL_ne_PD.symm
      rw [hpdo pd hpd] at this; exact Option.some.inj this
    subst hpdd
    rw [get_validatedHdr_payload H o _ b _ pd hpd hnr (by rw [hseg]; exact hs), digestWrites_missing H _ hd0e hadd]; rfl

/-! ### non-vacuity: a record built with every policy axis at ignore (the case `C02_build_truthful` and
    `C02_validate_payload`, which need spec checking on, do not reach) -/

def dgH : Alg → Bytes → Bytes := fun a _ => List.replicate a.size 7
def dgΩ : Oracles := ⟨fun _ => true, fun _ => true, fun _ => true, fun _ _ => true, fun _ => none⟩
def dgO : Opts := ⟨.ignore, .ignore, .ignore, .ignore, false, true, true, true, true, true, true, false, bs "sha1", .b32⟩
def dgHdr : Fields := [(bs "WARC-Type", bs "resource"), (bs "WARC-Date", bs "2020-01-02T03:04:05Z"),
  (bs "WARC-Target-URI", bs "http://example.com/"), (bs "Content-Type", bs "text/plain")]

example : (build dgH dgO dgΩ (bs "1.1") 2 4 dgHdr (bs "hello") (bs "urn:uuid:1")).err = none ∧
    ((build dgH dgO dgΩ (bs "1.1") 2 4 dgHdr (bs "hello") (bs "urn:uuid:1")).record.map
      (fun r => r.block.payloadDigest.isSome && r.rt != RT_Revisit)) = some true ∧
    dgO.addMissingDigest = true ∧ newDigest dgO.defaultAlg dgO.defaultEnc = some ⟨.sha1, bs "sha1", [], .b32⟩ ∧
    COLON ∉ dgO.defaultAlg ∧
    dgHdr.has (bs "WARC-Block-Digest") = false ∧ dgHdr.has (bs "WARC-Payload-Digest") = false ∧
    dgHdr.has (bs "WARC-Segment-Number") = false := by
  decide +kernel

end Gowarc.Props.C02
