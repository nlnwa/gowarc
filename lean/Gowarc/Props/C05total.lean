/-
  C05, totality of the header parser: the fuel of the model's loops is never what stops them.

  The Go loops (`for { readLine … }`, `for nc == sp || nc == ht { … }`) have no bound; the model gives them fuel
  (stream length + 2, resp. + 1). These theorems show that the fuel is adequate: with any larger fuel the loops return
  the very same result, for every policy and every stream, with or without a reader fault. So the model's result IS the
  result of the unbounded loop, the out-of-fuel marker is unreachable, and the parser terminates after at most
  (stream length + 2) iterations — every iteration consumes at least one byte.

  What one round of either loop is — a final result, or one more round on a strictly shorter stream — is said in
  Lemmas/ParserStep.lean (`contLoop_step`, `parseBody_tail`); fuel adequacy and "what is left is a suffix" are
  inductions over the fuel with that as their step.
-/
import Gowarc.Lemmas.ParserStep
import Gowarc.Lemmas.Lists
namespace Gowarc.Props.C05

/-- **the continuation loop does not depend on its fuel** once the fuel covers what is left of the stream -/
theorem contLoop_fuel (syn : Pol) (fuel : Nat) : ∀ (line : Bytes) (nc : UInt8) (eoh : Bool) (fnd : List Tag) (s : Stream),
    s.rest.length + 1 ≤ fuel → contLoop syn fuel line nc eoh fnd s = contLoop syn (fuel + 1) line nc eoh fnd s := by
  induction fuel with
  | zero => omega
  | succ f ih =>
    intro line nc eoh fnd s hf
    cases h : (nc == SP || nc == HT) with
    | false => rw [contLoop_stop h, contLoop_stop h]
    | true =>
      rcases contLoop_step syn line nc eoh fnd s h with ⟨e, he⟩ | ⟨line', eoh', fnd', _, hs⟩
      · rw [he, he]
      · rw [hs, hs]
        by_cases hr : s.rest = []
        · -- the stream is used up: the next character is 0 and the next round stops whatever its fuel
          have h0 : ((readLine syn s).nc == SP || (readLine syn s).nc == HT) = false := by
            rw [readLine_empty syn s hr]; split <;> decide
          rw [contLoop_stop h0, contLoop_stop h0]
        · exact ih _ _ _ _ _ (by have := readLine_rest_lt syn s hr; simp only; omega)

/-- **the main loop does not depend on its fuel** once the fuel covers the stream: one more unit changes nothing -/
theorem parseLoop_fuel_succ (syn : Pol) (fuel : Nat) : ∀ (wf : Fields) (fnd : List Tag) (s : Stream),
    s.rest.length + 1 ≤ fuel → parseLoop syn fuel wf fnd s = parseLoop syn (fuel + 1) wf fnd s := by
  induction fuel with
  | zero => omega
  | succ f ih =>
    intro wf fnd s hf
    rw [parseLoop_succ, parseLoop_succ]
    cases parseBody_tail syn wf fnd s with
    | done r _ _ h => rw [h, h]
    | call wf' fnd' s' _ hs h => rw [h, h]; exact ih _ _ _ (by omega)

theorem parseLoop_rest_le (syn : Pol) (fuel : Nat) : ∀ {wf : Fields} {fnd : List Tag} {s : Stream} {fs : Fields} {f : List Tag} {s' : Stream},
    parseLoop syn fuel wf fnd s = .ok fs f s' → s'.rest.length ≤ s.rest.length := by
  induction fuel with
  | zero => intro _ _ _ _ _ _ h; cases h
  | succ n ih =>
    intro wf fnd s fs f s' hp
    rw [parseLoop_succ] at hp
    cases parseBody_tail syn wf fnd s with
    | done r _ hr h => exact hr fs f s' (by rw [← h, hp])
    | call wf' fnd' s'' _ hs h => rw [h] at hp; exact Nat.le_trans (ih hp) (Nat.le_of_lt hs)

/-- **the header parser is total and its model is exact**: for every policy and every stream (with or without a reader
    fault) the result of `parseFields` — which runs the loop with fuel = stream length + 2 — is the result of the loop
    with ANY larger fuel: the loop always ends by itself, after at most (stream length + 2) iterations -/
theorem C05_parse_total (syn : Pol) (s : Stream) (fuel : Nat) (h : s.rest.length + 2 ≤ fuel) :
    parseLoop syn fuel [] [] s = parseFields syn s := by
  obtain ⟨e, rfl⟩ : ∃ e, fuel = (s.rest.length + 2) + e := ⟨fuel - (s.rest.length + 2), by omega⟩
  exact fuel_stable (parseLoop syn · [] [] s) _ (fun m hm => parseLoop_fuel_succ syn m [] [] s (by omega)) e

/-- the continuation loop as called by the parser (fuel = what is left + 1) equals the loop with any larger fuel -/
theorem C05_cont_total (syn : Pol) (extra : Nat) (line : Bytes) (nc : UInt8) (eoh : Bool) (fnd : List Tag) (s : Stream) :
    contLoop syn (s.rest.length + 1 + extra) line nc eoh fnd s = contLoop syn (s.rest.length + 1) line nc eoh fnd s :=
  fuel_stable (contLoop syn · line nc eoh fnd s) _ (fun m hm => contLoop_fuel syn m line nc eoh fnd s hm) extra

/-- the out-of-fuel marker of the model is unreachable: it could only be produced by fuel 0, and fuel 0 is never reached
    with the parser's initial fuel -/
theorem C05_no_fuel_marker (syn : Pol) (s : Stream) : parseFields syn s = parseLoop syn (s.rest.length + 3) [] [] s :=
  (C05_parse_total syn s (s.rest.length + 3) (by omega)).symm

/-- what the header parser leaves is never longer than what it was given -/
theorem parseFields_rest_le (syn : Pol) (s : Stream) (fs : Fields) (f : List Tag) (s' : Stream)
    (h : parseFields syn s = .ok fs f s') : s'.rest.length ≤ s.rest.length :=
  parseLoop_rest_le syn _ h

end Gowarc.Props.C05
