/-
  C19 / C01, the writer side of "serialize": `WarcFields.Write` and the marshaler either report an error or have delivered
  exactly the serialization, with the right count — against a writer that fails once at ANY position and accepts
  everything afterwards. (Seed C19-h: a buffered writer whose deferred Flush drops the error returns success with a hole in
  the header; the payload lines are then read back as header fields.)
-/
import Gowarc.Model.WriteTo
namespace Gowarc.Props.C19

/-- one Write call on a writer that has not run out of room: what it took is a prefix of `p` of the reported length —
    all of `p` when it reports no error (and it still has room), a strict prefix when it does -/
theorem write_spec (w : FW) (p : Bytes) (hi : w.Inv) :
    (w.write p).1.got = w.got ++ p.take (w.write p).2.1 ∧
    (if (w.write p).2.2 then (w.write p).2.1 < p.length else (w.write p).2.1 = p.length ∧ (w.write p).1.Inv) := by
  unfold FW.write
  split
  · rename_i hc
    simp only [Bool.and_eq_true, Bool.not_eq_true', decide_eq_true_eq] at hc
    have hle : w.got.length ≤ w.budget := hi.resolve_left (by simp [hc.1])
    refine ⟨by simp, ?_⟩
    simp only [↓reduceIte, List.length_take]
    omega
  · rename_i hc
    simp only [Bool.and_eq_true, Bool.not_eq_true', decide_eq_true_eq, not_and, Nat.not_lt] at hc
    refine ⟨by simp, rfl, ?_⟩
    cases hf : w.failed with
    | true => exact .inl rfl
    | false => exact .inr (by simpa using hc hf)

/-- **the same for a sequence of pieces**: what reached the writer is the prefix of the output whose length is reported;
    no error ⇒ it is the whole output, an error ⇒ a strict prefix — the caller is told exactly how much was written -/
theorem writePieces_spec (ps : List Bytes) (w : FW) (hi : w.Inv) :
    (writePieces ps w).1.got = w.got ++ ps.flatten.take (writePieces ps w).2.1 ∧
    (if (writePieces ps w).2.2 then (writePieces ps w).2.1 < ps.flatten.length else (writePieces ps w).2.1 = ps.flatten.length) := by
  induction ps generalizing w with
  | nil => simp [writePieces]
  | cons p rest ih =>
    obtain ⟨g1, h1⟩ := write_spec w p hi
    unfold writePieces
    cases he : (w.write p).2.2 with
    | true =>
      rw [he] at h1
      simp only [↓reduceIte, List.flatten_cons, List.length_append] at h1 ⊢
      exact ⟨by rw [g1, List.take_append_of_le_length (Nat.le_of_lt h1)], by omega⟩
    | false =>
      rw [he] at h1
      obtain ⟨g2, h2⟩ := ih (w.write p).1 h1.2
      simp only [Bool.false_eq_true, ↓reduceIte, List.flatten_cons, List.length_append, h1.1] at g1 ⊢
      rw [g2, g1, List.take_length, List.take_length_add_append, List.append_assoc]
      refine ⟨rfl, ?_⟩
      generalize (writePieces rest (w.write p).1).2.2 = e at h2
      cases e <;> simp only [Bool.false_eq_true, ↓reduceIte] at h2 ⊢ <;> omega

/-- no error ⇒ every piece reached the writer, in order, and the count is their total length -/
theorem writePieces_ok (ps : List Bytes) (w : FW) (hi : w.Inv) (h : (writePieces ps w).2.2 = false) :
    (writePieces ps w).1.got = w.got ++ ps.flatten ∧ (writePieces ps w).2.1 = ps.flatten.length := by
  obtain ⟨g, n⟩ := writePieces_spec ps w hi
  rw [h] at n
  exact ⟨by rw [g, n, List.take_length], n⟩

theorem writePieces_err (ps : List Bytes) (w : FW) (hi : w.Inv) (h : (writePieces ps w).2.2 = true) :
    (writePieces ps w).1.got = w.got ++ ps.flatten.take (writePieces ps w).2.1 ∧ (writePieces ps w).2.1 < ps.flatten.length := by
  obtain ⟨g, n⟩ := writePieces_spec ps w hi
  rw [h] at n
  exact ⟨g, n⟩

theorem pieces_flatten (fs : Fields) : fs.pieces.flatten = fs.write := rfl

/-- **WarcFields.Write reports an error or has delivered the whole serialization**, for every field list, every writer
    state and every position of the fault -/
theorem C19_write_all_or_error (fs : Fields) (w : FW) (hi : w.Inv) :
    ((fs.writeTo w).2.2 = false → (fs.writeTo w).1.got = w.got ++ fs.write ∧ (fs.writeTo w).2.1 = fs.write.length) ∧
    ((fs.writeTo w).2.2 = true → (fs.writeTo w).1.got = w.got ++ fs.write.take (fs.writeTo w).2.1 ∧ (fs.writeTo w).2.1 < fs.write.length) := by
  unfold Fields.writeTo
  rw [← pieces_flatten]
  exact ⟨writePieces_ok _ w hi, writePieces_err _ w hi⟩

theorem marshalPieces_flatten (v : Bytes) (hdr : Fields) (blk : Bytes) : (marshalPieces v hdr blk).flatten = marshal v hdr blk := by
  unfold marshalPieces marshal
  simp [pieces_flatten]

/-- **the marshaler reports an error or has delivered the whole record** (C01: what is read back is what `marshal`
    describes — provided Marshal said it succeeded) -/
theorem C01_marshal_all_or_error (v : Bytes) (hdr : Fields) (blk : Bytes) (w : FW) (hi : w.Inv) :
    ((marshalTo v hdr blk w).2.2 = false → (marshalTo v hdr blk w).1.got = w.got ++ marshal v hdr blk ∧ (marshalTo v hdr blk w).2.1 = (marshal v hdr blk).length) ∧
    ((marshalTo v hdr blk w).2.2 = true → (marshalTo v hdr blk w).1.got = w.got ++ (marshal v hdr blk).take (marshalTo v hdr blk w).2.1 ∧ (marshalTo v hdr blk w).2.1 < (marshal v hdr blk).length) := by
  unfold marshalTo
  rw [← marshalPieces_flatten]
  exact ⟨writePieces_ok _ w hi, writePieces_err _ w hi⟩

/-- the fault does strike: a fresh writer with a budget below the output length makes the serializer return an error -/
theorem writePieces_fails (ps : List Bytes) (w : FW) (hf : w.failed = false) (hle : w.got.length ≤ w.budget)
    (hb : w.budget < w.got.length + ps.flatten.length) : (writePieces ps w).2.2 = true := by
  induction ps generalizing w with
  | nil => simp at hb; omega
  | cons p rest ih =>
    unfold writePieces
    by_cases he : (w.write p).2.2 = true
    · simp [he]
    · have he' : (w.write p).2.2 = false := by simpa using he
      simp only [he', Bool.false_eq_true, ↓reduceIte]
      have hw : (w.write p).1 = { w with got := w.got ++ p } ∧ w.got.length + p.length ≤ w.budget := by
        unfold FW.write at he' ⊢
        split
        · rename_i hc; simp [hc] at he'
        · rename_i hc
          simp only [hf, Bool.not_false, Bool.true_and, decide_eq_true_eq, Nat.not_lt] at hc
          exact ⟨rfl, hc⟩
      rw [hw.1]
      apply ih
      · exact hf
      · simp only [List.length_append]; exact hw.2
      · simp only [List.flatten_cons, List.length_append] at hb ⊢
        omega

example : FW.Inv ⟨[], 7, false⟩ := Or.inr (by decide)
example : (Fields.writeTo [(bs "A", bs "b"), (bs "C", bs "d")] ⟨[], 7, false⟩).2 = (7, true) := by decide
example : (Fields.writeTo [(bs "A", bs "b"), (bs "C", bs "d")] ⟨[], 100, false⟩).2 = (12, false) := by decide

end Gowarc.Props.C19
