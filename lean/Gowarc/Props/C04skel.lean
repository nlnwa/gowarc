/-
  The tie of the sequential writer model to the source text of warcfile.go, regenerated on every run:
  the file-effect skeleton extracted from /repo equals the one the model `SW` was written from.
  `./check` audits each property within its own namespace, so the obligation has a name in the namespace of every property
  that rests on this model; all of them are the one `rfl`.
-/
import Gowarc.Gen.WriterSkeleton
import Gowarc.Model.WriterSkeleton
namespace Gowarc.Props.C04
theorem C04_writer_skeleton : Gowarc.Gen.writerSkeleton = Gowarc.SW.expectedWriterSkeleton := rfl
end Gowarc.Props.C04
namespace Gowarc.Props.C13
theorem C13_writer_skeleton : Gowarc.Gen.writerSkeleton = Gowarc.SW.expectedWriterSkeleton := Gowarc.Props.C04.C04_writer_skeleton
end Gowarc.Props.C13
namespace Gowarc.Props.C12
theorem C12_writer_skeleton : Gowarc.Gen.writerSkeleton = Gowarc.SW.expectedWriterSkeleton := Gowarc.Props.C04.C04_writer_skeleton
end Gowarc.Props.C12
