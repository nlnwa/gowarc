/-
  C07 — Validation observes, it does not destroy what was archived.

  Model: `validateHeader`, `unmarshalTail` (Model/Record.lean). Tie: kind `xpol` (every input parsed under all 81 policy
  combinations with the repair options off, headers and drained block compared across policies), kind `valhdr`
  (header before/after validation), kind `unmarshal` (block read from the returned record).
-/
import Gowarc.Lemmas.Inversion
namespace Gowarc.Props.C07

/-- **header validation never alters a field**, under any policy: the value of a field that fails its check stays what
    was archived -/
theorem C07_validate_keeps_header (o : Opts) (Ω : Oracles) (v : Nat) (st : St) :
    (validateHeader o Ω v st).2.hdr = st.hdr := (validateHeader_keep o Ω v).h st

variable (H : Alg → Bytes → Bytes)

/-- **repairs off ⇒ what the caller gets is what was archived, under every policy**: the returned record carries exactly
    the parsed header fields and exactly the block framed by Content-Length — complete, not empty, not shortened -/
theorem C07_observe (o : Opts) (Ω : Oracles) (vt : Bytes) (vi : Nat) (fs : Fields) (s' : Stream) (st st' : St)
    (r : Rec) (rest : Bytes) (hrep : RepairsOff o) (hwf : o.fixWarcFieldsBlockErrors = false)
    (h : unmarshalTail H o Ω vt vi fs s' st = (.ok (some r, rest), st')) :
    r.hdr = fs ∧ r.block.raw = declaredBlock fs s' :=
  unmarshalTail_observes H hrep hwf h

/-- hence two policy settings that both return a record for the same parsed header return the same header and block -/
theorem C07_policy_independent (o₁ o₂ : Opts) (Ω : Oracles) (vt : Bytes) (vi : Nat) (fs : Fields) (s' : Stream)
    (st₁ st₁' st₂ st₂' : St) (r₁ r₂ : Rec) (rest₁ rest₂ : Bytes)
    (h₁r : RepairsOff o₁) (h₂r : RepairsOff o₂) (h₁w : o₁.fixWarcFieldsBlockErrors = false) (h₂w : o₂.fixWarcFieldsBlockErrors = false)
    (h₁ : unmarshalTail H o₁ Ω vt vi fs s' st₁ = (.ok (some r₁, rest₁), st₁'))
    (h₂ : unmarshalTail H o₂ Ω vt vi fs s' st₂ = (.ok (some r₂, rest₂), st₂')) :
    r₁.hdr = r₂.hdr ∧ r₁.block.raw = r₂.block.raw := by
  have a := C07_observe H o₁ Ω vt vi fs s' st₁ st₁' r₁ rest₁ h₁r h₁w h₁
  have b := C07_observe H o₂ Ω vt vi fs s' st₂ st₂' r₂ rest₂ h₂r h₂w h₂
  exact ⟨a.1.trans b.1.symm, a.2.trans b.2.symm⟩

/-- the block a successful block parse returns holds exactly the content bytes it was given (no syntax repair): for HTTP
    blocks protocol header ++ payload = content -/
theorem C07_block_complete (o : Opts) (Ω : Oracles) (rt : Nat) (c : Bytes) (fault : Bool) (s s' : St) (b : Block)
    (hfix : o.fixSyntaxErrors = false) (hwf : o.fixWarcFieldsBlockErrors = false)
    (h : parseBlock o Ω rt c fault s = (.ok b, s')) : b.raw = c := parseBlock_raw hfix hwf h

/- Not proved here: that the header parser returns the same fields under every syntax policy whenever it returns fields
   at all (it does on all generated inputs: kind `xpol`). C07_observe is relative to the parsed fields. With repair options
   on, which fields may differ is characterised in Props/C03 (checkDigest_sound_warn, lengthBad_iff) and C02. -/

end Gowarc.Props.C07
