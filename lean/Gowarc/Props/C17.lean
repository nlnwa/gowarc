/-
  C17 — Header validation implements the WARC field table.

  * `C17_table`: the table extracted from headerfielddef.go (Gen.fieldDefs, Gen.validators, Gen.requiredFields)
    IS the table of the WARC 1.0/1.1 standards transcribed by hand in Spec/FieldTable.lean — cell by cell (`decide`).
  * `C17_warn`, `C17_strict`: the model of validateHeader reports exactly the defects that table defines.
  Tie: translator (table), correspondence kind `valhdr` over every field × record type × version cell with valid and
  invalid values, all multiplicities 0–3, random defect mixes; independent Go oracle with its own copy of the standard's table.
-/
import Gowarc.Lemmas.Report
import Gowarc.Spec.FieldTable
namespace Gowarc.Props.C17

/-- how the value check of a Go validator reads as a value type of the standard -/
def typeOfCheck : String → Spec.VType
  | "uint" => .nat | "ulong" => .nat | "time" => .time | "ip" => .ip | "warcid" => .id | "uri" => .uri | _ => .string

def toSpecRow (d : FieldDef) : Spec.Row := ⟨d.name, typeOfCheck (validatorOf d).2, d.repeatable, d.recMask, d.specMask⟩

/-- **regenerated obligation**: every cell of the Go table equals the standard's table -/
theorem C17_table : Gen.fieldDefs.map toSpecRow = Spec.warcFieldTable := by decide +kernel

theorem C17_mandatory : Gen.requiredFields = Spec.mandatory := rfl

/-- every validator of a named field goes through checkLegal, and performs one of the known value checks -/
theorem C17_validators : Gen.fieldDefs.all (fun d => (d.name == "" || (validatorOf d).1) &&
    ["none", "uri", "ip", "time", "warcid", "uint", "ulong"].contains (validatorOf d).2) = true := by decide +kernel

/-- the record type names of the standard, each with the bit gowarc gives it (record.go) -/
theorem C17_record_types : Gen.stringToRecordType = [("warcinfo", 1), ("response", 2), ("resource", 4), ("request", 8),
    ("metadata", 16), ("revisit", 32), ("conversion", 64), ("continuation", 128)] ∧
    Gen.recordTypeString = Gen.stringToRecordType.map (fun p => (p.2, p.1)) := ⟨rfl, rfl⟩

/-! ### what the standard's table demands of a header set -/

def bracketed (v : Bytes) : Bool := (trim (fun b => b == 60 || b == 62) v).length + 2 == v.length

/-- typed values: non-negative decimal integers, timestamps, IP addresses, angle-bracketed URIs, URIs -/
def wellTyped (Ω : Oracles) : Spec.VType → Bytes → Bool
  | .string, _ => true
  | .nat, v => isUint63 v
  | .time, v => Ω.time v
  | .ip, v => Ω.ip v
  | .uri, v => Ω.uri v
  | .id, v => bracketed v && Ω.uri (trim (fun b => b == 60 || b == 62) v)

/-- one occurrence of a field is defective when the field is defined in the record's version and is either not permitted
    for the record's type or ill-typed (for an unknown type every field is permitted, values are still typed) -/
def occurrenceBad (Ω : Oracles) (ver rt : Nat) (r : Spec.Row) (v : Bytes) : Bool :=
  r.name != "" && ver &&& r.vers != 0 && (if rt != 0 && rt &&& r.recs == 0 then true else !wellTyped Ω r.typ v)

/-- the model's per-occurrence test IS the standard's, read through `toSpecRow` -/
theorem fieldBad_spec (Ω : Oracles) (ver rt : Nat) (d : FieldDef) (v : Bytes)
    (hl : d.name = "" ∨ (validatorOf d).1 = true) (hname : d.name = "" → (validatorOf d).1 = false)
    (hv : valueOk Ω (validatorOf d).2 v = wellTyped Ω (typeOfCheck (validatorOf d).2) v) :
    fieldBad Ω ver rt d v = occurrenceBad Ω ver rt (toSpecRow d) v := by
  unfold fieldBad occurrenceBad toSpecRow
  by_cases hn : d.name = ""
  · simp [hn, hname hn]
  · have hlegal : (validatorOf d).1 = true := hl.resolve_left hn
    simp only [hlegal, Bool.not_true, Bool.false_eq_true, ↓reduceIte, hv]
    -- what is left is a Boolean identity in the two mask tests and `rt = 0`
    by_cases h1 : ver &&& d.specMask = 0 <;> by_cases h2 : rt = 0 <;> by_cases h3 : rt &&& d.recMask = 0 <;>
      simp [h1, h2, h3, hn]

/-- **C17 under warn**: the record is always returned (no error from the spec axis), the header is left untouched, and
    the findings are exactly the defects of the header set according to the table: one finding per defect — so there are
    findings iff the set is defective. (Unknown-type axis at ignore or warn.) -/
theorem C17_warn (o : Opts) (Ω : Oracles) (ver : Nat) (h : Fields) (hw : o.spec = .warn) (hu : o.unk ≠ .fail) :
    validateHeader o Ω ver ⟨h, []⟩ =
      (.ok (rtOf h), ⟨h, (if (typeFieldOf h).isEmpty then [Tag.hdrNoType] else []) ++
                         (if rtOf h == 0 && o.unk == .warn then [Tag.hdrUnknownType] else []) ++ specDefects Ω ver h⟩) := by
  rw [validateHeader_eq, hw]
  cases hunk : o.unk with
  | fail => exact absurd hunk hu
  | ignore => simp [report_warn, report_ignore]
  | warn => simp [report_warn]

/-- the whole of validateHeader under the strict spec policy, case by case -/
theorem validateHeader_fail (o : Opts) (Ω : Oracles) (ver : Nat) (h : Fields) (hf : o.spec = .fail) :
    validateHeader o Ω ver ⟨h, []⟩ =
      (if (typeFieldOf h).isEmpty then (.error .hdrNoType, ⟨h, []⟩)
       else if rtOf h == 0 && o.unk == .fail then (.error .hdrUnknownType, ⟨h, []⟩)
       else match specDefects Ω ver h with
         | [] => (.ok (rtOf h), ⟨h, if rtOf h == 0 && o.unk == .warn then [Tag.hdrUnknownType] else []⟩)
         | t :: _ => (.error t, ⟨h, if rtOf h == 0 && o.unk == .warn then [Tag.hdrUnknownType] else []⟩)) := by
  -- three reports, two of them strict: each case of the table evaluates
  rw [validateHeader_eq, hf]
  simp only [M.bind_def, M.hdr_def]
  cases (typeFieldOf h).isEmpty with
  | true => rfl
  | false => cases rtOf h == 0 <;> cases o.unk <;> cases specDefects Ω ver h <;> rfl

/-- when validateHeader returns a record type under the strict spec policy, and what it returns then -/
theorem validateHeader_fail_ok (o : Opts) (Ω : Oracles) (ver : Nat) (h : Fields) (hf : o.spec = .fail) (rt : Nat) (st : St) :
    validateHeader o Ω ver ⟨h, []⟩ = (.ok rt, st) ↔
      ((typeFieldOf h).isEmpty = false ∧ ¬(rtOf h = 0 ∧ o.unk = .fail) ∧ specDefects Ω ver h = []) ∧
      rtOf h = rt ∧ (⟨h, if rtOf h == 0 && o.unk == .warn then [Tag.hdrUnknownType] else []⟩ : St) = st := by
  rw [validateHeader_fail o Ω ver h hf]
  by_cases ht : (typeFieldOf h).isEmpty = true
  · simp [ht]
  · by_cases hr : (rtOf h == 0 && o.unk == .fail) = true
    · have : rtOf h = 0 ∧ o.unk = .fail := by simpa using hr
      simp [ht, this]
    · have hr2 : ¬(rtOf h = 0 ∧ o.unk = .fail) := by simpa using hr
      simp only [ht, Bool.false_eq_true, ↓reduceIte, hr, true_and, hr2, not_false_eq_true]
      cases specDefects Ω ver h <;> simp

/-- **C17 under strict spec policy**: a header set is accepted (a record type is returned, no error) exactly when
    WARC-Type is present, the unknown-type axis does not object, and the set has no defect according to the table;
    the header is unchanged. -/
theorem C17_strict (o : Opts) (Ω : Oracles) (ver : Nat) (h : Fields) (hf : o.spec = .fail) :
    (∃ rt st, validateHeader o Ω ver ⟨h, []⟩ = (.ok rt, st)) ↔
      ((typeFieldOf h).isEmpty = false ∧ ¬(rtOf h = 0 ∧ o.unk = .fail) ∧ specDefects Ω ver h = []) :=
  ⟨fun ⟨rt, st, e⟩ => ((validateHeader_fail_ok o Ω ver h hf rt st).1 e).1,
    fun hc => ⟨_, _, (validateHeader_fail_ok o Ω ver h hf _ _).2 ⟨hc, rfl, rfl⟩⟩⟩

/-- accepted sets keep their header and the returned type is the type named by WARC-Type -/
theorem C17_strict_result (o : Opts) (Ω : Oracles) (ver : Nat) (h : Fields) (hf : o.spec = .fail) (rt : Nat) (st : St)
    (hok : validateHeader o Ω ver ⟨h, []⟩ = (.ok rt, st)) : rt = rtOf h ∧ st.hdr = h := by
  obtain ⟨_, hrt, hst⟩ := (validateHeader_fail_ok o Ω ver h hf rt st).1 hok
  exact ⟨hrt.symm, by rw [← hst]⟩

theorem defOf_mem (n : Bytes) : defOf n ∈ Gen.fieldDefs := by
  unfold defOf
  cases h : lookupDef (lowerKey n) with
  | some d => exact List.mem_of_find?_eq_some h
  | none =>
    cases hfd : Gen.fieldDefs with
    | nil => exact absurd hfd (by decide)
    | cons a r => simp

/-- every occurrence of a field is judged by a row OF THE STANDARD'S TABLE, with the standard's value types -/
theorem C17_occurrence (Ω : Oracles) (ver rt : Nat) (n v : Bytes) :
    fieldBad Ω ver rt (defOf n) v = occurrenceBad Ω ver rt (toSpecRow (defOf n)) v ∧
    toSpecRow (defOf n) ∈ Spec.warcFieldTable := by
  have hm := defOf_mem n
  -- the row for unknown fields (no name) is the one whose validator does not go through checkLegal
  have hname : ∀ d ∈ Gen.fieldDefs, d.name = "" → (validatorOf d).1 = false := by decide +kernel
  have hd := List.all_eq_true.mp C17_validators _ hm
  simp only [Bool.and_eq_true, Bool.or_eq_true, beq_iff_eq, List.contains_eq_mem, List.mem_cons, List.mem_nil_iff,
    or_false, decide_eq_true_eq] at hd
  obtain ⟨hl, hc⟩ := hd
  -- each of the seven value checks is, by definition, the test of the value type it is read as
  have hv : valueOk Ω (validatorOf (defOf n)).2 v = wellTyped Ω (typeOfCheck (validatorOf (defOf n)).2) v := by
    rcases hc with h | h | h | h | h | h | h <;> rw [h] <;> rfl
  exact ⟨fieldBad_spec Ω ver rt _ v hl (hname _ hm) hv, C17_table ▸ List.mem_map_of_mem hm⟩

/-- non-vacuity: a concrete defective set (Target-URI on a warcinfo, duplicate WARC-Date, missing Content-Length) has
    exactly three defects, a clean one has none -/
example : specDefects ⟨fun _ => true, fun _ => true, fun _ => true, fun _ _ => true, fun _ => none⟩ 2
    [(bs "WARC-Type", bs "warcinfo"), (bs "WARC-Record-ID", bs "<urn:uuid:1>"), (bs "WARC-Date", bs "x"), (bs "WARC-Date", bs "y"),
     (bs "WARC-Target-URI", bs "http://x/")] = [.hdrDuplicate, .hdrDuplicate, .hdrField, .hdrMissing] := by decide +kernel
example : specDefects ⟨fun _ => true, fun _ => true, fun _ => true, fun _ _ => true, fun _ => none⟩ 2
    [(bs "WARC-Type", bs "warcinfo"), (bs "WARC-Record-ID", bs "<urn:uuid:1>"), (bs "WARC-Date", bs "x"), (bs "Content-Length", bs "0")] = [] := by decide +kernel

end Gowarc.Props.C17
