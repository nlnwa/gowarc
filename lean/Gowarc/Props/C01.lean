/-
  C01 — Write-then-read round trip is lossless.

  Model: `marshal`, `unmarshal`, `build` (Model/Record.lean). Tie: kind `roundtrip` (build under any options → Marshal →
  Unmarshal under any policy incl. strict → compare → Marshal again), the round-trip oracle runs on the implementation.

  The full statement is false for header values with edge white space or encoded-words (C19-F17 / C19-F15, listed findings);
  the theorems here are for values that are clean in that sense.
-/
import Gowarc.Lemmas.StreamLemmas
import Gowarc.Lemmas.RecordShape
namespace Gowarc.Props.C01

/-- framing: the block is cut out by its length and never scanned, so ANY block content — CRLFCRLF, a nested record,
    gzip magic — is returned intact and the trailer is found right after it -/
theorem C01_framing (block rest : Bytes) :
    (block ++ crlfcrlf ++ rest).take block.length = block ∧
    ((block ++ crlfcrlf ++ rest).drop block.length).take 4 = crlfcrlf ∧
    ((block ++ crlfcrlf ++ rest).drop block.length).drop 4 = rest := by
  refine ⟨by simp, ?_, ?_⟩
  · simp [List.append_assoc, crlfcrlf]
  · simp [List.append_assoc, crlfcrlf]

/-- the version line written by the marshaler is read back as a line -/
theorem C01_version_line (ver rest : Bytes) (h : LF ∉ ver) :
    readBytesNL (ver ++ crlf ++ rest) = (ver ++ crlf, rest, true) := readBytesNL_crlf ver rest h

variable (H : Alg → Bytes → Bytes)

/-- a plain stream that starts with the record magic goes to the record reader as it is (`unmarshal_plain_start`);
    when its version line is complete, what is left is `unmarshalBody` on the stream behind that line -/
theorem unmarshal_after_version (o : Opts) (Ω : Oracles) (ver X : Bytes) (fault : Bool) (hnolf : LF ∉ ver) :
    unmarshal H o Ω ⟨bs "WARC/" ++ ver ++ crlf ++ X, fault⟩ =
      (match unmarshalBody H o Ω ⟨X, fault⟩ (ver ++ crlf) ⟨[], []⟩ with
       | (.ok (r, rest), st) => ⟨r, 0, st.fnd, none, rest⟩
       | (.error t, st) => ⟨none, 0, st.fnd, some t, []⟩) := by
  rw [List.append_assoc, List.append_assoc, unmarshal_plain_start, unmarshalAfterMagic_eq]
  simp only [← List.append_assoc, readBytesNL_crlf ver X hnolf, Bool.not_true, Bool.false_eq_true, ↓reduceIte]
  rfl

/-- a stream cut before the end of the version line: the end of the stream, reported at offset 0 -/
theorem unmarshal_cut_version_eq (o : Opts) (Ω : Oracles) (after : Bytes) (fault : Bool) (hnl : LF ∉ after) :
    unmarshal H o Ω ⟨bs "WARC/" ++ after, fault⟩ = ⟨none, 0, [], some (endTag fault), []⟩ := by
  rw [unmarshal_plain_start, unmarshalAfterMagic_eq, readBytesNL_nolf after hnl]
  rfl

theorem unmarshal_short_eq (o : Opts) (Ω : Oracles) (p : Bytes) (fault : Bool) (h : p.length < 5) :
    unmarshal H o Ω ⟨p, fault⟩ = ⟨none, 0, [], some (endTag fault), []⟩ := by
  rw [unmarshal_eq, show skipJunk (p.length + 1) p 0 = .inl 0 by rw [skipJunk, if_pos h]]
  simp

end Gowarc.Props.C01
