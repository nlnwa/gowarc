/-
  C20 — Revisit creation and merge are mutually consistent.

  Model: `toRevisit`, `merge`, `createRevisitRef` (Model/Revisit.lean) over header fields and block bytes.
  Tie: correspondence kind `revisit` (build an original, derive the revisit under each profile, serialize + strict re-parse,
  merge back), every clause of the property judged on the implementation.
-/
import Gowarc.Model.Revisit
import Gowarc.Lemmas.FieldsLemmas
import Gowarc.Lemmas.Names
namespace Gowarc.Props.C20

/-! ### the header names written by ToRevisitRecord and Merge -/

/-- they are nine different keys: the one fact about `canon` the proofs below need. Each name is its own canonical form
    (`Names.canon_*`), which leaves nine byte strings to compare: all 36 pairs are decided here at once, where
    `Names.*_ne_*` names the few pairs the record level needs one by one. -/
theorem revisit_keys :
    ([bs "WARC-Type", bs "WARC-Profile", bs "WARC-Refers-To", bs "WARC-Refers-To-Target-URI", bs "WARC-Refers-To-Date",
      bs "WARC-Truncated", bs "WARC-Block-Digest", bs "Content-Length", bs "WARC-Payload-Digest"].map canon).Pairwise
      (fun a b => a ≠ b ∧ b ≠ a) := by
  simp only [List.map_cons, Names.canon_Type, Names.canon_Profile, Names.canon_RefersTo, Names.canon_RefersToURI,
    Names.canon_RefersToDate, Names.canon_Truncated, Names.canon_BD, Names.canon_CL, Names.canon_PD]
  decide +kernel

theorem get_setIfNonEmpty (h : Fields) (n m v : Bytes) :
    (setIfNonEmpty h n v).get m = if v ≠ [] ∧ canon m = canon n then v else h.get m := by
  unfold setIfNonEmpty; cases v <;> simp [get_set]

/-- SetId with an empty value does nothing, so the test before it changes nothing -/
theorem ite_isEmpty_setId (h : Fields) (n v : Bytes) : (if v.isEmpty then h else h.setId n v) = h.setId n v := by
  cases v <;> rfl

/-- what the header of a revisit record holds under the names ToRevisitRecord writes, and under WARC-Payload-Digest -/
theorem revisitHdr_get (base : Fields) (ref : RevisitRef) (bd : Bytes) (n : Nat) :
    (revisitHdr base ref bd n).get (bs "Content-Length") = natToDec n ∧
    (revisitHdr base ref bd n).get (bs "WARC-Block-Digest") = bd ∧
    (revisitHdr base ref bd n).get (bs "WARC-Payload-Digest") = base.get (bs "WARC-Payload-Digest") ∧
    (revisitHdr base ref bd n).get (bs "WARC-Type") = recTypeName RT_Revisit ∧
    (revisitHdr base ref bd n).get (bs "WARC-Profile") = ref.profile ∧
    (ref.targetUri ≠ [] → (revisitHdr base ref bd n).get (bs "WARC-Refers-To-Target-URI") = ref.targetUri) ∧
    (ref.targetDate ≠ [] → (revisitHdr base ref bd n).get (bs "WARC-Refers-To-Date") = ref.targetDate) ∧
    (ref.targetRecordId ≠ [] → some ((revisitHdr base ref bd n).get (bs "WARC-Refers-To")) = Fields.idValue ref.targetRecordId) ∧
    (revisitHdr base ref bd n).get (bs "WARC-Truncated") = bs "length" := by
  have K := revisit_keys
  simp only [List.map_cons, List.map_nil, List.pairwise_cons, List.forall_mem_cons, List.not_mem_nil, false_imp_iff] at K
  simp only [revisitHdr, ite_isEmpty_setId, get_set, get_setIfNonEmpty, get_setId, K, and_false, and_true, ↓reduceIte, true_and]
  refine ⟨fun hu => if_pos hu, fun hd => if_pos hd, fun hid => ?_⟩
  obtain ⟨w, hw⟩ := idValue_isSome hid
  rw [hw]

theorem ok_of_guard {ε α} {c : Bool} {e : ε} {x : Except ε α} {m : α} (h : (if c then .error e else x) = .ok m) :
    c = false ∧ x = .ok m := by
  cases c <;> simp_all

/-- the shape of every successful ToRevisitRecord -/
theorem toRevisit_ok {H : Alg → Bytes → Bytes} {o : Opts} {r : RRec} {ref : RevisitRef} {rev : RRec}
    (h : toRevisit H o r ref = .ok rev) :
    ∃ d, newDigest o.defaultAlg o.defaultEnc = some d ∧
      rev = { rt := RT_Revisit, hdr := revisitHdr (revisitBase r ref) ref (d.format H (revisitHead r)) (revisitHead r).length,
              isHttp := false, revisitable := false, head := revisitHead r, payload := [],
              payloadDigest := if r.isHttp then r.payloadDigest else [], cached := true,
              blockDigestStr := d.format H (revisitHead r) } := by
  unfold toRevisit at h
  obtain ⟨_, h⟩ := ok_of_guard h
  obtain ⟨_, h⟩ := ok_of_guard h
  obtain ⟨_, h⟩ := ok_of_guard h
  cases hd : newDigest o.defaultAlg o.defaultEnc with
  | none => simp [hd] at h
  | some d => simp only [hd, Except.ok.injEq] at h; exact ⟨d, rfl, h.symm⟩

section
variable (H : Alg → Bytes → Bytes)

/-- **the revisit's block is exactly the original's protocol header; its type is revisit; Content-Length and
    WARC-Block-Digest are truthful for that block** -/
theorem C20_revisit (o : Opts) (r : RRec) (ref : RevisitRef) (rev : RRec) (h : toRevisit H o r ref = .ok rev) :
    rev.raw = revisitHead r ∧
    rev.rt = RT_Revisit ∧
    rev.hdr.get (bs "Content-Length") = natToDec rev.raw.length ∧
    (∃ d, newDigest o.defaultAlg o.defaultEnc = some d ∧
       rev.hdr.get (bs "WARC-Block-Digest") = d.name ++ [COLON] ++ d.enc.encode (H d.alg rev.raw)) := by
  obtain ⟨d, hd, rfl⟩ := toRevisit_ok h
  obtain ⟨hcl, hbd, _⟩ := revisitHdr_get (revisitBase r ref) ref (d.format H (revisitHead r)) (revisitHead r).length
  refine ⟨List.append_nil _, rfl, ?_, d, hd, ?_⟩ <;> simp only [RRec.raw, List.append_nil]
  · exact hcl
  · exact hbd

/-- the reference fields of the RevisitRef and the type name are in the header -/
theorem C20_ref_fields (o : Opts) (r : RRec) (ref : RevisitRef) (rev : RRec) (h : toRevisit H o r ref = .ok rev) :
    rev.hdr.get (bs "WARC-Type") = bs "revisit" ∧
    rev.hdr.get (bs "WARC-Profile") = ref.profile ∧
    (ref.targetUri ≠ [] → rev.hdr.get (bs "WARC-Refers-To-Target-URI") = ref.targetUri) ∧
    (ref.targetDate ≠ [] → rev.hdr.get (bs "WARC-Refers-To-Date") = ref.targetDate) ∧
    (ref.targetRecordId ≠ [] → some (rev.hdr.get (bs "WARC-Refers-To")) = Fields.idValue ref.targetRecordId) ∧
    rev.hdr.get (bs "WARC-Truncated") = bs "length" := by
  obtain ⟨d, _, rfl⟩ := toRevisit_ok h
  -- evaluated by the kernel alone: left to unification, the elaborator evaluates the two record type tables as well
  have ht : recTypeName RT_Revisit = bs "revisit" := by decide +kernel
  rw [← ht]
  exact (revisitHdr_get (revisitBase r ref) ref (d.format H (revisitHead r)) (revisitHead r).length).2.2.2

/-- the original's payload digest is carried over unchanged -/
theorem C20_payload_digest (o : Opts) (r : RRec) (ref : RevisitRef) (rev : RRec) (h : toRevisit H o r ref = .ok rev)
    (hpd : r.hdr.has (bs "WARC-Payload-Digest") = true) :
    rev.hdr.get (bs "WARC-Payload-Digest") = r.hdr.get (bs "WARC-Payload-Digest") := by
  obtain ⟨d, _, rfl⟩ := toRevisit_ok h
  have hbase : revisitBase r ref = r.hdr := by simp [revisitBase, hpd]
  rw [← hbase]
  exact (revisitHdr_get (revisitBase r ref) ref (d.format H (revisitHead r)) (revisitHead r).length).2.2.1

end

/-- the header Merge gives the merged record (`h5` of `merge`) -/
def mergeHdr (rev orig : RRec) : Fields :=
  let h1 := rev.hdr.set (bs "WARC-Type") (orig.hdr.get (bs "WARC-Type"))
  let h2 := (((h1.delete (bs "WARC-Refers-To")).delete (bs "WARC-Refers-To-Target-URI")).delete (bs "WARC-Refers-To-Date")).delete (bs "WARC-Profile")
  let h3 := if orig.hdr.has (bs "WARC-Truncated") then h2.set (bs "WARC-Truncated") (orig.hdr.get (bs "WARC-Truncated")) else h2.delete (bs "WARC-Truncated")
  let h4 := setInt h3 (bs "Content-Length") ((rev.head.length : Int) + contentLengthOf orig.hdr - (orig.head.length : Int))
  if orig.cached then h4.set (bs "WARC-Block-Digest") orig.blockDigestStr else h4.delete (bs "WARC-Block-Digest")

/-- Merge carries WARC-Truncated and WARC-Block-Digest over by `Set` if the original has them and `Delete` if not:
    either way another key does not notice -/
theorem get_setOrDelete_other {h : Fields} {c : Bool} {n m v : Bytes} (hne : canon m ≠ canon n) :
    (if c then h.set n v else h.delete n).get m = h.get m := by
  split
  · exact get_set_other hne
  · exact get_delete_other hne

theorem has_setOrDelete_other {h : Fields} {c : Bool} {n m v : Bytes} (hne : canon m ≠ canon n) :
    (if c then h.set n v else h.delete n).has m = h.has m := by
  split
  · exact has_set_other hne
  · exact has_delete_other hne

/-- what the header of a merged record holds under the names Merge writes -/
theorem mergeHdr_get (rev orig : RRec) :
    (mergeHdr rev orig).get (bs "WARC-Type") = orig.hdr.get (bs "WARC-Type") ∧
    (mergeHdr rev orig).get (bs "Content-Length") =
      intToDec ((rev.head.length : Int) + contentLengthOf orig.hdr - (orig.head.length : Int)) ∧
    (mergeHdr rev orig).has (bs "WARC-Refers-To") = false ∧ (mergeHdr rev orig).has (bs "WARC-Refers-To-Target-URI") = false ∧
    (mergeHdr rev orig).has (bs "WARC-Refers-To-Date") = false ∧ (mergeHdr rev orig).has (bs "WARC-Profile") = false := by
  have K := revisit_keys
  simp only [List.map_cons, List.map_nil, List.pairwise_cons, List.forall_mem_cons, List.not_mem_nil, false_imp_iff] at K
  simp only [mergeHdr, setInt, get_setOrDelete_other, has_setOrDelete_other, get_set, has_set, get_delete, has_delete, K, ne_eq,
    not_false_eq_true, ↓reduceIte, and_self]

/-- the shape of every successful Merge: the guards were passed, and the protocol header is the revisit's, with CR LF
    behind it if it parses only then -/
theorem merge_ok {Ω : Oracles} {syn : Pol} {isResp : Bool} {rev orig m : RRec} (h : merge Ω syn isResp rev orig = .ok m) :
    rev.rt = RT_Revisit ∧ orig.isHttp = true ∧
    m = { rt := orig.rt, hdr := mergeHdr rev orig, isHttp := true, revisitable := true,
          head := if Ω.http isResp rev.head then rev.head else rev.head ++ crlf, payload := orig.payload,
          payloadDigest := orig.payloadDigest, cached := orig.cached, blockDigestStr := orig.blockDigestStr } := by
  unfold merge at h
  obtain ⟨_, h⟩ := ok_of_guard h
  obtain ⟨hrt, h⟩ := ok_of_guard h
  obtain ⟨hhttp, h⟩ := ok_of_guard h
  obtain ⟨_, h⟩ := ok_of_guard h
  refine ⟨by simpa using hrt, by simpa using hhttp, ?_⟩
  cases hp : Ω.http isResp rev.head with
  | true => rw [if_pos hp] at h; cases h; rfl
  | false =>
    rw [if_neg (by simp [hp])] at h
    obtain ⟨_, h⟩ := ok_of_guard h
    cases hp' : Ω.http isResp (rev.head ++ crlf) with
    | true => rw [if_pos hp'] at h; cases h; rfl
    | false => rw [if_neg (by simp [hp'])] at h; cases h

/-- **merging a revisit with the original gives the revisit's protocol header followed by the original's payload, a
    Content-Length that is truthful for those bytes whenever the original's was truthful, and a record whose Type()
    agrees with its WARC-Type field as the original's did** (protocol header that parses as it is) -/
theorem C20_merge (Ω : Oracles) (syn : Pol) (isResp : Bool) (rev orig m : RRec)
    (hparse : Ω.http isResp rev.head = true)
    (h : merge Ω syn isResp rev orig = .ok m) :
    m.raw = rev.head ++ orig.payload ∧ m.rt = orig.rt ∧
    m.hdr.get (bs "WARC-Type") = orig.hdr.get (bs "WARC-Type") ∧
    (contentLengthOf orig.hdr = (orig.raw.length : Int) → m.hdr.get (bs "Content-Length") = intToDec (m.raw.length : Int)) ∧
    (m.hdr.has (bs "WARC-Refers-To") = false ∧ m.hdr.has (bs "WARC-Refers-To-Target-URI") = false ∧
     m.hdr.has (bs "WARC-Refers-To-Date") = false ∧ m.hdr.has (bs "WARC-Profile") = false) := by
  obtain ⟨_, _, hm⟩ := merge_ok h
  rw [if_pos hparse] at hm
  subst hm
  obtain ⟨ht, hcl, hdel⟩ := mergeHdr_get rev orig
  refine ⟨rfl, rfl, ht, fun hc => ?_, hdel⟩
  rw [hcl, hc]
  simp only [RRec.raw, List.length_append]
  congr 1; omega

/-- **round trip**: the revisit made from an http record, merged with that record again, has the record's full block -/
theorem C20_roundtrip (H : Alg → Bytes → Bytes) (Ω : Oracles) (o : Opts) (syn : Pol) (isResp : Bool) (orig rev m : RRec) (ref : RevisitRef)
    (hhttp : orig.isHttp = true) (hrev : toRevisit H o orig ref = .ok rev)
    (hparse : Ω.http isResp orig.head = true)
    (h : merge Ω syn isResp rev orig = .ok m) :
    m.raw = orig.raw ∧ m.rt = orig.rt ∧ m.hdr.get (bs "WARC-Type") = orig.hdr.get (bs "WARC-Type") ∧
    (contentLengthOf orig.hdr = (orig.raw.length : Int) → m.hdr.get (bs "Content-Length") = intToDec (orig.raw.length : Int)) := by
  obtain ⟨d, _, hr⟩ := toRevisit_ok hrev
  have hhead : rev.head = orig.head := by rw [hr]; simp [revisitHead, hhttp]
  obtain ⟨h1, h2, h3, h4, _⟩ := C20_merge Ω syn isResp rev orig m (by rw [hhead]; exact hparse) h
  have hraw : m.raw = orig.raw := by rw [h1, hhead]; rfl
  exact ⟨hraw, h2, h3, fun hc => by rw [← hraw]; exact h4 hc⟩

/-- Merge refuses (with some error) a record that is not a revisit, and an original that is not an http record -/
theorem C20_merge_refuses (Ω : Oracles) (syn : Pol) (isResp : Bool) (rev orig : RRec) :
    (rev.rt ≠ RT_Revisit → ∃ e, merge Ω syn isResp rev orig = .error e) ∧
    (orig.isHttp = false → ∃ e, merge Ω syn isResp rev orig = .error e) := by
  cases hm : merge Ω syn isResp rev orig with
  | error e => exact ⟨fun _ => ⟨e, rfl⟩, fun _ => ⟨e, rfl⟩⟩
  | ok m =>
    obtain ⟨hrt, hhttp, _⟩ := merge_ok hm
    exact ⟨fun hne => absurd hrt hne, fun hh => by rw [hhttp] at hh; cases hh⟩

/-- a reference can never be made of a revisit record -/
theorem C20_no_ref_of_revisit (r : RRec) (p : Bytes) (h : r.rt = RT_Revisit) : createRevisitRef r p = .error .refOfRevisit := by
  simp [createRevisitRef, h]

/-! ### non-vacuity -/
def exOpts : Opts := ⟨.warn, .warn, .warn, .warn, false, true, true, true, true, true, true, true, bs "sha1", .b32⟩
def exOrig : RRec := { rt := RT_Resource, hdr := Fields.set (Fields.set ([] : Fields) (bs "WARC-Type") (bs "resource")) (bs "WARC-Payload-Digest") (bs "sha1:AA"), isHttp := true, revisitable := true, head := bs "HTTP/1.1 200 OK", payload := bs "body", payloadDigest := bs "sha1:AA", cached := true, blockDigestStr := bs "sha1:BB" }

example : (toRevisit (fun _ b => b) exOpts exOrig ⟨profileIPD11, [], [], []⟩).isOk = true := by
  have hpd : exOrig.hdr.has (bs "WARC-Payload-Digest") = true := by simp only [exOrig, has_set, if_true]
  have hd : (newDigest exOpts.defaultAlg exOpts.defaultEnc).isSome = true := by decide
  unfold toRevisit
  rw [show revisitBase exOrig ⟨profileIPD11, [], [], []⟩ = exOrig.hdr by simp [revisitBase, hpd], hpd]
  simp only [isIPD, beq_self_eq_true, Bool.or_true, Bool.not_true, Bool.and_false, Bool.false_and, Bool.false_eq_true, if_false]
  cases h : newDigest exOpts.defaultAlg exOpts.defaultEnc with
  | none => rw [h] at hd; cases hd
  | some d => rfl

end Gowarc.Props.C20
