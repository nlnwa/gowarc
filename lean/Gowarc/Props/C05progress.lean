/-
  C05, progress — "every call either consumes input or returns an error, so reading any finite input until the first
  error terminates".

  * `C05_progress` — whenever Unmarshal returns without an error, the remaining stream is STRICTLY shorter than the
    stream it was given: at least the five magic bytes are gone. For every policy, every option setting, every stream
    and end condition, every verdict of the external validators. (For a gzip member: provided the decoder reports that
    the member has at least one byte — `GzConsumes`, true of any decoder since a member starts with its magic bytes.)
  * `C05_read_until_error_terminates` — the reading loop of the file reader ends by itself: with fuel = stream length
    + 1 it never stops for lack of fuel; any larger fuel returns the same list of results.
-/
import Gowarc.Props.C05total
import Gowarc.Props.C05
import Gowarc.Model.Reader
import Gowarc.Lemmas.Runs
import Gowarc.Lemmas.RecordShape
namespace Gowarc.Props.C05

variable (H : Alg → Bytes → Bytes)

theorem afterMagic_rest_le {o : Opts} {Ω : Oracles} {off : Nat} {fnd0 : List Tag} {after : Stream}
    (h : (unmarshalAfterMagic H o Ω off fnd0 after).err = none) :
    (unmarshalAfterMagic H o Ω off fnd0 after).rest.length ≤ after.rest.length := by
  generalize hu : unmarshalAfterMagic H o Ω off fnd0 after = u at h
  rw [unmarshalAfterMagic_eq] at hu
  split at hu
  · subst hu; cases h
  · cases hb : unmarshalBody H o Ω ⟨(readBytesNL after.rest).2.1, after.fault⟩ (readBytesNL after.rest).1 ⟨[], fnd0⟩ with
    | mk res st =>
      rw [hb] at hu
      subst hu
      obtain t | ⟨r, rest⟩ := res
      · cases h
      · obtain ⟨vt, vi, fs, f, s', st1, hp, ht⟩ := unmarshalBody_ok H hb
        exact Nat.le_trans (unmarshalTail_rest_le H ht)
          (Nat.le_trans (parseFields_rest_le o.syn _ fs f s' hp) (readBytesNL_rest_le after.rest))

/-- the gzip decoder reports at least one consumed byte for a member it accepts (a member starts with its two magic bytes) -/
def GzConsumes (Ω : Oracles) : Prop := ∀ b c bad n, Ω.gz b = some (.inr (c, bad, n)) → 0 < n

/-- **progress**: a call that returns no error has consumed input -/
theorem C05_progress (o : Opts) (Ω : Oracles) (hgz : GzConsumes Ω) (s : Stream) (h : (unmarshal H o Ω s).err = none) :
    (unmarshal H o Ω s).rest.length < s.rest.length := by
  obtain ⟨off, t, rest, hu⟩ | ⟨off, a, hsk, hoff⟩ := unmarshal_cases H o Ω s
  · rw [hu] at h; cases h
  · obtain ⟨hsuf, hlen5⟩ := C05_junk_consumes s.rest off a hsk
    rw [unmarshal_of_skip H hsk hoff] at h ⊢
    generalize (if (o.syn != Pol.ignore && off != 0) = true then [Tag.synJunk] else []) = f0 at h ⊢
    by_cases hm : a.take 2 = [0x1f, 0x8b]
    · obtain ⟨t, ht⟩ | ⟨content, bad, consumed, hv, hrun⟩ := atMagic_gzip H Ω s.fault hm
      · rw [ht] at h; cases h
      · -- a gzip member: what is left is what follows it, a.length - consumed < a.length ≤ s.rest.length
        rw [hrun] at h ⊢
        have hpos := hgz a content bad consumed hv
        rw [gzFinish_rest h, List.length_drop]
        omega
    · -- a plain record: what is left ≤ a.length - 5 < a.length ≤ s.rest.length
      rw [atMagic_plain H hm] at h ⊢
      have := afterMagic_rest_le H h
      simp only [List.length_drop] at this
      omega

/-- with fuel = stream length + 1 the reading loop never stops for lack of fuel: one more unit of fuel changes nothing -/
theorem readLoop_fuel_succ (o : Opts) (Ω : Oracles) (hgz : GzConsumes Ω) (fuel : Nat) : ∀ (base : Nat) (s : Stream),
    s.rest.length + 1 ≤ fuel → readLoop H o Ω fuel base s = readLoop H o Ω (fuel + 1) base s := by
  induction fuel with
  | zero => omega
  | succ n ih =>
    intro base s h
    cases he : (unmarshal H o Ω s).err with
    | some e => rw [readLoop_err H _ _ he, readLoop_err H _ _ he]
    | none =>
      -- the stream left is shorter (`C05_progress`), so the fuel left is still enough for it
      have hp := C05_progress H o Ω hgz s he
      rw [readLoop_succ H _ _ he, readLoop_succ H _ _ he, ih _ ⟨(unmarshal H o Ω s).rest, s.fault⟩ (by simp only; omega)]

/-- **reading until the first error terminates**: with fuel = stream length + 1 the loop ends with an error item (io.EOF
    at the end of the input, or the first real error): every item before the last carries no error, the last one does -/
theorem C05_read_until_error_terminates (o : Opts) (Ω : Oracles) (hgz : GzConsumes Ω) (fuel : Nat) : ∀ (base : Nat) (s : Stream),
    s.rest.length + 1 ≤ fuel →
    ∃ items last, readLoop H o Ω fuel base s = items ++ [last] ∧ last.err ≠ none ∧ ∀ x ∈ items, x.err = none := by
  induction fuel with
  | zero => omega
  | succ n ih =>
    intro base s h
    cases he : (unmarshal H o Ω s).err with
    | some e => exact ⟨[], _, readLoop_err H _ _ he, by simp, by simp⟩
    | none =>
      -- as in `readLoop_fuel_succ`: the fuel left is enough for the shorter stream
      have hp := C05_progress H o Ω hgz s he
      obtain ⟨items, last, hl, hlast, hall⟩ := ih (base + (s.rest.length - (unmarshal H o Ω s).rest.length)) ⟨(unmarshal H o Ω s).rest, s.fault⟩ (by simp only; omega)
      refine ⟨_ :: items, last, by rw [readLoop_succ H _ _ he, hl]; rfl, hlast, ?_⟩
      intro x hx
      simp only [List.mem_cons] at hx
      rcases hx with rfl | hx
      · rfl
      · exact hall x hx

/-- the file reader's loop (`readAllRecs`: fuel = length + 2) is therefore the complete reading of the stream -/
theorem readAllRecs_complete (o : Opts) (Ω : Oracles) (hgz : GzConsumes Ω) (data : Bytes) :
    ∃ items last, readAllRecs H o Ω data = items ++ [last] ∧ last.err ≠ none ∧ ∀ x ∈ items, x.err = none :=
  C05_read_until_error_terminates H o Ω hgz _ 0 ⟨data, false⟩ (by simp)

/-- non-vacuity: an oracle without gzip verdicts consumes -/
example : GzConsumes ⟨fun _ => true, fun _ => true, fun _ => true, fun _ _ => true, fun _ => none⟩ := by
  intro b c bad n h; cases h

end Gowarc.Props.C05
