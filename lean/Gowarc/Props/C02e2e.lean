/-
  C02, end to end — what ValidateDigest leaves in the header.

  For every block and every header that has a Content-Length field, when the spec policy is warn or fail and the repair
  options are on (the defaults: fix Content-Length, fix digests, add missing digests): if ValidateDigest returns without
  an error, the header's Content-Length is the decimal rendering of the true block length and the WARC-Block-Digest field
  is truthful — it is the rendering of the digest of the block's bytes, or it is the declared value and that value
  decodes to the digest of the block's bytes. The builder (`build`) ends with ValidateDigest and returns the header as it
  stands afterwards; the parser does the same.
-/
import Gowarc.Lemmas.Inversion
import Gowarc.Lemmas.Preserves
import Gowarc.Props.C03
namespace Gowarc.Props.C02

variable (H : Alg → Bytes → Bytes)

/-- **after ValidateDigest the header tells the truth about length and block digest** -/
theorem C02_validate_truthful (o : Opts) (rt : Nat) (b : Block) (fault : Bool) (st st' : St)
    (hspec : o.spec ≠ .ignore) (hfixcl : o.fixContentLength = true) (hfix : o.fixDigest = true) (hadd : o.addMissingDigest = true)
    (hcl : st.hdr.has (bs "Content-Length") = true)
    (h : validateDigest H o rt b fault st = (.ok (), st')) :
    st'.hdr.get (bs "Content-Length") = natToDec b.raw.length ∧
    (st'.hdr.get (bs "WARC-Block-Digest") = b.blockDigest.format H b.raw ∨ b.blockDigest.valid H b.raw = true) := by
  rw [(validateDigest_ok H h).1, get_validatedHdr_length, get_validatedHdr_block]
  constructor
  · -- a wrong length was repaired, a length that was not repaired was right
    rw [hfixcl, Bool.and_true]
    split
    · rfl
    · next hbad => exact Decidable.not_not.mp fun hne => hbad ((C03.lengthBad_iff o st.hdr b hspec hcl).mpr hne)
  · split
    · exact .inl rfl
    · exact .inr (valid_of_not_writes H hspec hfix hadd ‹_›)

/-! ### the payload digest -/

/-- **after ValidateDigest the header tells the truth about the payload digest**: when the block kind has a payload
    (HTTP blocks: the bytes after the protocol header; resource records: the block) and ValidateDigest looks at it (not a
    revisit, no WARC-Segment-Number), the WARC-Payload-Digest field is the rendering of the digest of exactly the payload
    bytes, or it is the declared value and that value decodes to the digest of the payload bytes -/
theorem C02_validate_payload (o : Opts) (rt : Nat) (b : Block) (fault : Bool) (st st' : St)
    (hspec : o.spec ≠ .ignore) (hfix : o.fixDigest = true) (hadd : o.addMissingDigest = true)
    (pd : Digest) (hpd : b.payloadDigest = some pd) (hnr : (rt == RT_Revisit) = false)
    (hseg : st.hdr.has (bs "WARC-Segment-Number") = false)
    (h : validateDigest H o rt b fault st = (.ok (), st')) :
    st'.hdr.get (bs "WARC-Payload-Digest") = pd.format H b.payload ∨ pd.valid H b.payload = true := by
  rw [(validateDigest_ok H h).1, get_validatedHdr_payload H o rt b _ pd hpd hnr hseg]
  split
  · exact .inl rfl
  · exact .inr (valid_of_not_writes H hspec hfix hadd ‹_›)

/-- for an HTTP block the payload is exactly the bytes after the protocol header, whatever the head contains -/
theorem C02_http_payload (o : Opts) (Ω : Oracles) (c : Bytes) (bd pd : Digest) (s s' : St) (b : Block)
    (hfix : o.fixSyntaxErrors = false) (h : newHttpBlock o Ω c bd pd s = (.ok b, s')) :
    b.payload = (headerBytes c).2.1 ∧ b.payloadDigest = some pd ∧ b.raw = c := by
  rw [(newHttpBlock_ok h).1]
  refine ⟨by simp [Block.payload], rfl, ?_⟩
  rw [httpHead_unrepaired c hfix]; exact headerBytes_append c

/-- **a built record tells the truth about its length and block digest**: with the spec policy at warn or fail and the
    default repair options, if the builder adds a missing Content-Length (or the caller supplied one), every record that
    Build returns without error has Content-Length = the decimal length of its block, and its WARC-Block-Digest is the
    rendering of the digest of its block (or the caller's value, which then decodes to that digest) -/
theorem C02_build_truthful (o : Opts) (Ω : Oracles) (verTxt : Bytes) (verId rt0 : Nat) (hdr : Fields) (content newId : Bytes) (r : Rec)
    (hspec : o.spec ≠ .ignore) (hfixcl : o.fixContentLength = true) (hfix : o.fixDigest = true) (hadd : o.addMissingDigest = true)
    (haddcl : o.addMissingContentLength = true)
    (hb : (build H o Ω verTxt verId rt0 hdr content newId).record = some r)
    (he : (build H o Ω verTxt verId rt0 hdr content newId).err = none) :
    r.hdr.get (bs "Content-Length") = natToDec r.block.raw.length ∧
    (r.hdr.get (bs "WARC-Block-Digest") = r.block.blockDigest.format H r.block.raw ∨ r.block.blockDigest.valid H r.block.raw = true) := by
  obtain ⟨sd, hbody⟩ := build_ok H hb
  obtain ⟨rtv, b, s1, s2, -, k1, hp, hd, rfl⟩ := buildBody_ok H hbody
  -- a Content-Length field, once present, stays present until ValidateDigest: `Set` never removes a field
  have h1 : s1.hdr.has (bs "Content-Length") = true := by rw [k1]; exact has_builderHdr_length hdr content newId haddcl
  have h2 : s2.hdr.has (bs "Content-Length") = true :=
    (parseBlock_preserves (fun _ => .of_hdr (·.has (bs "Content-Length") = true))
      fun _ _ _ _ => has_set_same _ _ _).run hp h1
  refine C02_validate_truthful H o _ b false _ _ hspec hfixcl hfix hadd ?_ hd
  show (s2.hdr.setIf _ _ _).has _ = true
  unfold Fields.setIf
  split
  · exact has_set_same _ _ _
  · exact h2

end Gowarc.Props.C02
