/-
  C13 — Rotation, naming and warcinfo invariants of written files.

  Model and tie: as C04 (`SW`, kind `writer`); the oracle additionally judges on the implementation: every file scans as
  whole records, warcinfo first / exactly one / names the file, every other record carries that id, the fit rule,
  name suffixes at every step, callback arguments.

  Theorems, for every reachable state of the writer: with a generator every file starts with its warcinfo member and
  every other member is stamped with that file's warcinfo id (without one nothing is stamped); a record is appended to
  the open non-empty file only if the fit test passed, and starts a fresh file otherwise; file ids are unique, a file is
  open exactly when it is the current one; there is exactly one callback per closed file, with that file's id, true
  size and warcinfo id.
-/
import Gowarc.Props.C04
import Gowarc.Lemmas.Lists
namespace Gowarc.Props.C13
open Gowarc.SW Gowarc.Props.C04

theorem Inv.closed {s : SW} (h : Inv s) (hc : s.cur = none) : ∀ f ∈ s.files, f.isOpen = false := C04.Inv.closed h hc

/-- the warcinfo and callback clauses; the steps keep them only together with `C04.Inv`, whose normal form
    (`Inv.decomp`) their proofs use -/
structure Inv13 (c : WCfg) (s : SW) : Prop where
  inf_cur : c.info = true → ∀ id, s.cur = some id → s.infoOf = some id
  inf_files : c.info = true → ∀ f ∈ s.files, ∃ b rest, f.members = ⟨0, b, none⟩ :: rest ∧ ∀ m ∈ rest, m.stamp = some f.id
  noinf : c.info = false → s.infoOf = none ∧ ∀ f ∈ s.files, ∀ m ∈ f.members, m.stamp = none
  cbs : ∀ cb ∈ s.callbacks, ∃ f ∈ s.files, f.id = cb.file ∧ f.isOpen = false ∧ f.size = cb.size ∧
          cb.infoOf = (if c.info then some cb.file else none)
  cbcount : s.callbacks.map (·.file) = (s.files.filter (fun f => !f.isOpen)).map (·.id)

theorem inv13_init (c : WCfg) : Inv13 c SW.init :=
  ⟨(by intro _ id h; cases h), (by intro _ f hf; cases hf), (by intro _; exact ⟨rfl, by intro f hf; cases hf⟩),
   (by intro cb h; cases h), rfl⟩

/-- the callbacks stay right as long as every closed file stays -/
theorem Inv13.cbs_of {c : WCfg} {s : SW} (h13 : Inv13 c s) {fs : List WFile} (hsub : ∀ f ∈ s.files, f.isOpen = false → f ∈ fs) :
    ∀ cb ∈ s.callbacks, ∃ f ∈ fs, f.id = cb.file ∧ f.isOpen = false ∧ f.size = cb.size ∧
      cb.infoOf = (if c.info then some cb.file else none) := by
  intro cb hcb
  obtain ⟨f, hf, hid, ho, r⟩ := h13.cbs cb hcb
  exact ⟨f, hsub f hf ho, hid, ho, r⟩

/-- on the normal form the closed files are the earlier ones: they stay when the last file is replaced -/
theorem closed_mem_snoc {fs init : List WFile} {l : WFile} (hfs : fs = init ++ [l]) (hop : l.isOpen = true) (l' : WFile) :
    ∀ f ∈ fs, f.isOpen = false → f ∈ init ++ [l'] := by
  intro f hf ho
  rw [hfs, List.mem_append, List.mem_singleton] at hf
  rcases hf with hf | rfl
  · exact List.mem_append_left _ hf
  · rw [hop] at ho; cases ho

theorem close_inv13 {c : WCfg} {s : SW} (h : Inv s) (h13 : Inv13 c s) : Inv13 c (close s) := by
  cases hc : s.cur with
  | none => rwa [close_idle hc]
  | some id =>
    obtain ⟨init, l, hfs, rfl, hne, hcl, hop, hsz⟩ := h.decomp hc
    have hinfo : s.infoOf = if c.info then some l.id else none := by
      cases hi : c.info
      · exact (h13.noinf hi).1
      · exact h13.inf_cur hi _ hc
    have h2 := h13.inf_files; have h3 := h13.noinf
    rw [hfs] at h2 h3
    rw [close_snoc hc hfs hne]
    -- the members of the last file are the same
    refine ⟨(fun _ _ h' => nomatch h'), fun hi => forall_mem_snoc_imp (h2 hi) id,
      fun hi => ⟨(h3 hi).1, forall_mem_snoc_imp (h3 hi).2 id⟩, ?_, ?_⟩
    · exact forall_mem_snoc (h13.cbs_of (closed_mem_snoc hfs hop _))
        ⟨_, List.mem_append_right _ (List.mem_singleton_self _), rfl, rfl, hsz.symm, hinfo⟩
    · simp [h13.cbcount, hfs, List.filter_append, hop]

theorem createFile_inv13 {c : WCfg} {s : SW} (ib : Nat → Bytes) (h13 : Inv13 c s) : Inv13 c (createFile c s ib) := by
  rw [createFile_eq]
  refine ⟨fun hi _ h' => by simpa [hi] using h',
    fun hi => forall_mem_snoc (h13.inf_files hi) ⟨ib (s.serial + 1), [], by simp [fresh_members, hi], nofun⟩,
    fun hi => ⟨by simpa [hi] using (h13.noinf hi).1, forall_mem_snoc (h13.noinf hi).2 (by simp [fresh_members, hi])⟩,
    h13.cbs_of fun f hf _ => List.mem_append_left _ hf, ?_⟩
  simp [h13.cbcount, fresh_isOpen]

theorem push_inv13 {c : WCfg} {s : SW} {id : Nat} (tok : Nat) (b : Bytes) (h : Inv s) (h13 : Inv13 c s) (hc : s.cur = some id) :
    Inv13 c (push s id ⟨tok, b, s.infoOf⟩) := by
  obtain ⟨init, l, hfs, rfl, hne, hcl, hop, -⟩ := h.decomp hc
  have h2 := h13.inf_files; have h3 := h13.noinf
  rw [hfs] at h2 h3
  rw [push_snoc hfs hne]
  -- the new member carries the stamp `s.infoOf`, which is the id of the open file, or `none` without a generator
  refine ⟨h13.inf_cur, fun hi => forall_mem_snoc_imp (h2 hi) ?_,
    fun hi => ⟨(h3 hi).1, forall_mem_snoc_imp (h3 hi).2 fun hl => forall_mem_snoc hl (h3 hi).1⟩,
    h13.cbs_of (closed_mem_snoc hfs hop _), ?_⟩
  · rintro ⟨b0, rest, hm, hr⟩
    exact ⟨b0, rest ++ [⟨tok, b, s.infoOf⟩], by simp [hm], forall_mem_snoc hr (h13.inf_cur hi _ hc)⟩
  · simp [h13.cbcount, hfs, List.filter_append, hop]

theorem step_inv13 (c : WCfg) (scale : Int → Int) (s : SW) (op : WOp) (h : Inv s) (h13 : Inv13 c s) : Inv13 c (step c scale s op).1 :=
  (step_ind c scale (P := fun s => Inv s ∧ Inv13 c s) (fun s h => ⟨close_inv s h.1, close_inv13 h.1 h.2⟩)
    (fun s ib hn h => ⟨createFile_inv c s ib hn h.1, createFile_inv13 ib h.2⟩)
    (fun _ _ tok b hc h => ⟨push_inv _ hc h.1, push_inv13 tok b h.1 h.2 hc⟩) s op ⟨h, h13⟩).2

theorem run_inv13 (c : WCfg) (scale : Int → Int) (ops : List WOp) : Inv13 c (run c scale SW.init ops).1 :=
  (run_ind c scale (P := fun s => Inv s ∧ Inv13 c s)
    (fun s op h => ⟨step_inv c scale s op h.1, step_inv13 c scale s op h.1 h.2⟩) ops _ ⟨inv_init, inv13_init c⟩).2

/-- **warcinfo linkage**: with a generator, in every reachable state every file starts with its warcinfo member
    (written before the id is set, so unstamped) and every other member carries that file's warcinfo id -/
theorem C13_info (c : WCfg) (scale : Int → Int) (ops : List WOp) (hi : c.info = true) :
    ∀ f ∈ (run c scale SW.init ops).1.files, ∃ b rest, f.members = ⟨0, b, none⟩ :: rest ∧ ∀ m ∈ rest, m.stamp = some f.id :=
  (run_inv13 c scale ops).inf_files hi

/-- without a generator no record header is touched -/
theorem C13_no_info (c : WCfg) (scale : Int → Int) (ops : List WOp) (hi : c.info = false) :
    ∀ f ∈ (run c scale SW.init ops).1.files, ∀ m ∈ f.members, m.stamp = none :=
  ((run_inv13 c scale ops).noinf hi).2

/-- **names**: ids (serial numbers of the name generator) are unique, and a file carries the in-progress suffix exactly
    while it is the current file -/
theorem C13_names (c : WCfg) (scale : Int → Int) (ops : List WOp) :
    ((run c scale SW.init ops).1.files.map (·.id)).Nodup ∧
    ∀ f ∈ (run c scale SW.init ops).1.files, (f.isOpen = true ↔ (run c scale SW.init ops).1.cur = some f.id) := by
  have h := C04_inv c scale ops
  refine ⟨?_, h.opn⟩
  rw [h.ord]; exact List.nodup_range'

/-- **callbacks**: one per closed file, in closing order, with the file's id, its true size and its warcinfo id -/
theorem C13_callback (c : WCfg) (scale : Int → Int) (ops : List WOp) :
    ((run c scale SW.init ops).1.callbacks.map (·.file) = ((run c scale SW.init ops).1.files.filter (fun f => !f.isOpen)).map (·.id)) ∧
    ∀ cb ∈ (run c scale SW.init ops).1.callbacks, ∃ f ∈ (run c scale SW.init ops).1.files,
      f.id = cb.file ∧ f.isOpen = false ∧ f.size = cb.size ∧ cb.infoOf = (if c.info then some cb.file else none) :=
  ⟨(run_inv13 c scale ops).cbcount, (run_inv13 c scale ops).cbs⟩

/-- **fit rule**: a Write that lands in the file that was already open and non-empty passed the fit test; one that
    fails it lands in a fresh file -/
theorem C13_fit (c : WCfg) (scale : Int → Int) (s : SW) (r : WRec) (n : Int) (id : Nat) (h : Inv s)
    (hmax : c.max > 0) (hd : r.decl = .val n) (hc : s.cur = some id) (hpos : s.curSize > 0) :
    ((write c scale s r).2.file = some id ↔ (s.curSize : Int) + (if c.compress then scale n else n) ≤ c.max) ∧
    ((s.curSize : Int) + (if c.compress then scale n else n) > c.max → (write c scale s r).2.file = some (id + 1) ∧ (write c scale s r).2.off = (r.infoBytes (id + 1)).length * (if c.info then 1 else 0)) := by
  have hfit : fitClose c scale s r.decl = some (decide ((s.curSize : Int) + (if c.compress then scale n else n) > c.max)) := by
    simp [fitClose, hc, hmax, hd, hpos]
  obtain ⟨hf, ho⟩ := write_open c scale r h hc hfit
  rw [hf, ho]
  -- it does not fit: the file is id + 1 ≠ id, behind its warcinfo record if any; it fits: the file is id
  by_cases hgt : (s.curSize : Int) + (if c.compress then scale n else n) > c.max <;> simp [hgt] <;> omega

/-! ### non-vacuity: warcinfo generator, limit 10, two records that do not fit together -/
example : (run ⟨10, false, true⟩ id SW.init [.write (exRec 1 6), .write (exRec 2 6), .rotate]).1.callbacks =
    [⟨1, 9, some 1⟩, ⟨2, 9, some 2⟩] := by decide
example : ((run ⟨10, false, true⟩ id SW.init [.write (exRec 1 6), .write (exRec 2 6)]).1.files.map (fun f => (f.id, f.isOpen, f.members.map (fun m => (m.tok, m.stamp))))) =
    [(1, false, [(0, none), (1, some 1)]), (2, true, [(0, none), (2, some 2)])] := by decide

end Gowarc.Props.C13
