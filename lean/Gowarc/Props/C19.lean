/-
  C19 — Header text is a fixpoint after one parse (no field smuggling).

  Model: `Gowarc.parseFields` (Model/HeaderParser.lean, transcription of warcfieldsparser.go incl. the RFC 2047 decoder
  of Go's mime package in Model/Mime.lean) and `Fields.write`. Tie: correspondence kinds `hdrparse`, `dechdr`, `apiparse`.

  The full statement is FALSE of the code (and of the model): the parser decodes encoded-words in the whole line before
  splitting it, and trims edge white space of values. Both are listed findings (known_findings.json C19-F15, C19-F17);
  the witnesses below are proved about the model by evaluation and are replayed against the implementation on every run.
-/
import Gowarc.Model.HeaderParser
namespace Gowarc.Props.C19

/-- a line without `=?` is returned unchanged by the RFC 2047 decoder: decoding can only affect lines containing `=?` -/
theorem decode_id (l : Bytes) (h : find2 61 63 l = none) : decodeHeader l = some l := by
  unfold decodeHeader; rw [h]

/-- serialising never produces `=?` out of nothing: if no pair contains it and the separator cannot complete one,
    a written field line is decoded to itself -/
theorem C19_line_stable (n v : Bytes) (h : find2 61 63 (n ++ [COLON, SP] ++ v) = none) :
    decodeHeader (n ++ [COLON, SP] ++ v) = some (n ++ [COLON, SP] ++ v) := decode_id _ h

def smuggle : Bytes := bs "X: =?utf-8?q?a=0D=0AWARC-Evil:_x?=\r\n\r\n"

/-- **full statement false (F15)**: a header section accepted under the strict syntax policy whose single parsed value
    contains CR LF; written out and parsed again it yields two fields. -/
theorem C19_fixpoint_false :
    ∃ fs, parseFields .fail ⟨smuggle, false⟩ = .ok fs [] ⟨[], false⟩ ∧ fs.length = 1 ∧
      ∃ fs', parseFields .fail ⟨fs.write, false⟩ = .ok fs' [] ⟨[], false⟩ ∧ fs'.length = 2 := by
  have h : parseFields .fail ⟨smuggle, false⟩ = .ok [(bs "X", bs "a\r\nWARC-Evil: x")] [] ⟨[], false⟩ ∧
      parseFields .fail ⟨Fields.write [(bs "X", bs "a\r\nWARC-Evil: x")], false⟩ =
        .ok [(bs "X", bs "a"), (bs "Warc-Evil", bs "x")] [] ⟨[], false⟩ := by decide +kernel
  exact ⟨_, h.1, rfl, _, h.2, rfl⟩

/-- **full statement false (F17)**: a CR/LF-free value with edge white space does not survive serialize-then-parse -/
theorem C19_api_false :
    parseFields .fail ⟨Fields.write (Fields.add [] (bs "X-Foo") (bs " v ")), false⟩ = .ok [(bs "X-Foo", bs "v")] [] ⟨[], false⟩ := by
  decide +kernel

/-- non-trivial positive instance: three fields, one with an empty value, one with colons inside, parse back unchanged
    under every syntax policy, with rest of stream preserved -/
example : ∀ π ∈ [Pol.ignore, Pol.warn, Pol.fail],
    parseFields π ⟨Fields.write [(bs "WARC-Type", bs "response"), (bs "X-Empty", []), (bs "X-Foo", bs "a: b:c")] ++ crlf ++ bs "rest", false⟩
      = .ok [(bs "WARC-Type", bs "response"), (bs "X-Empty", []), (bs "X-Foo", bs "a: b:c")] [] ⟨bs "rest", false⟩ := by
  decide +kernel

end Gowarc.Props.C19
