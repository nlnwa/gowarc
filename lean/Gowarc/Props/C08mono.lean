/-
  C08, last sentence — "Axis by axis, with the other axes held fixed, an input rejected with an error under a more
  lenient setting is also rejected under every stricter one."

  Proved in the stronger, pointwise form: if every one of the four axes of setting L is at most as strict as the same
  axis of setting S (ignore ≤ warn ≤ fail), then whatever S accepts, L accepts — for Unmarshal on every stream (plain or
  gzip, any reader fault, any codec verdict) and for Build on every header and content, under every setting of the
  repair options. The four single-axis statements of the property are corollaries.

  The proof is a simulation over the validation monad (Lemmas/MonoPol.lean, RecordMono.lean): up to the block, the
  lenient run returns the SAME values and the same header as the strict one (`Mono`), which needs the header parser to
  return the same fields under a more lenient syntax policy (Lemmas/ParserMono.lean) and the warc-fields repair to
  produce the same block whichever policy accepted it (`wfDetect_agree`; known_findings.json lists the defect of gowarc
  that this statement brought out under `fixed: property=C08`); from ValidateDigest on, the headers may differ by repairs
  made under warn but not under ignore, and only acceptance is carried on (`Acc`).
-/
import Gowarc.Lemmas.RecordMono
namespace Gowarc.Props.C08

variable (H : Alg → Bytes → Bytes)

/-- **monotone rejection**, Unmarshal and Build: with `L ≤ S` axis by axis, an error under `L` is an error under `S` -/
theorem C08_monotone_unmarshal (o : Opts) (Ω : Oracles) (L S : Pols) (hle : Pols.le L S) (s : Stream)
    (h : (unmarshal H (o.withPol L) Ω s).err ≠ none) : (unmarshal H (o.withPol S) Ω s).err ≠ none :=
  fun hS => h (unmarshal_mono o Ω L S hle H s hS)

theorem C08_monotone_build (o : Opts) (Ω : Oracles) (L S : Pols) (hle : Pols.le L S) (vt : Bytes) (vi rt0 : Nat) (hdr : Fields) (c id : Bytes)
    (h : (build H (o.withPol L) Ω vt vi rt0 hdr c id).err ≠ none) : (build H (o.withPol S) Ω vt vi rt0 hdr c id).err ≠ none :=
  fun hS => h (build_mono o Ω L S hle H vt vi rt0 hdr c id hS)

/- Axis by axis, the other axes held at whatever `o` has: `{ o with syn := p }` is `o.withPol ⟨p, o.spec, o.unk, o.blk⟩`
   by definition (a structure is its fields), so each statement is an instance of the pointwise one. -/

theorem C08_axis_syn_unmarshal (o : Opts) (Ω : Oracles) (p q : Pol) (hpq : p.le q = true) (s : Stream)
    (h : (unmarshal H { o with syn := p } Ω s).err ≠ none) : (unmarshal H { o with syn := q } Ω s).err ≠ none :=
  C08_monotone_unmarshal H o Ω _ _ (.only_syn hpq o.spec o.unk o.blk) s h

theorem C08_axis_spec_unmarshal (o : Opts) (Ω : Oracles) (p q : Pol) (hpq : p.le q = true) (s : Stream)
    (h : (unmarshal H { o with spec := p } Ω s).err ≠ none) : (unmarshal H { o with spec := q } Ω s).err ≠ none :=
  C08_monotone_unmarshal H o Ω _ _ (.only_spec hpq o.syn o.unk o.blk) s h

theorem C08_axis_unk_unmarshal (o : Opts) (Ω : Oracles) (p q : Pol) (hpq : p.le q = true) (s : Stream)
    (h : (unmarshal H { o with unk := p } Ω s).err ≠ none) : (unmarshal H { o with unk := q } Ω s).err ≠ none :=
  C08_monotone_unmarshal H o Ω _ _ (.only_unk hpq o.syn o.spec o.blk) s h

theorem C08_axis_blk_unmarshal (o : Opts) (Ω : Oracles) (p q : Pol) (hpq : p.le q = true) (s : Stream)
    (h : (unmarshal H { o with blk := p } Ω s).err ≠ none) : (unmarshal H { o with blk := q } Ω s).err ≠ none :=
  C08_monotone_unmarshal H o Ω _ _ (.only_blk hpq o.syn o.spec o.unk) s h

theorem C08_axis_syn_build (o : Opts) (Ω : Oracles) (p q : Pol) (hpq : p.le q = true) (vt : Bytes) (vi rt0 : Nat) (hdr : Fields) (c id : Bytes)
    (h : (build H { o with syn := p } Ω vt vi rt0 hdr c id).err ≠ none) : (build H { o with syn := q } Ω vt vi rt0 hdr c id).err ≠ none :=
  C08_monotone_build H o Ω _ _ (.only_syn hpq o.spec o.unk o.blk) vt vi rt0 hdr c id h

theorem C08_axis_spec_build (o : Opts) (Ω : Oracles) (p q : Pol) (hpq : p.le q = true) (vt : Bytes) (vi rt0 : Nat) (hdr : Fields) (c id : Bytes)
    (h : (build H { o with spec := p } Ω vt vi rt0 hdr c id).err ≠ none) : (build H { o with spec := q } Ω vt vi rt0 hdr c id).err ≠ none :=
  C08_monotone_build H o Ω _ _ (.only_spec hpq o.syn o.unk o.blk) vt vi rt0 hdr c id h

theorem C08_axis_unk_build (o : Opts) (Ω : Oracles) (p q : Pol) (hpq : p.le q = true) (vt : Bytes) (vi rt0 : Nat) (hdr : Fields) (c id : Bytes)
    (h : (build H { o with unk := p } Ω vt vi rt0 hdr c id).err ≠ none) : (build H { o with unk := q } Ω vt vi rt0 hdr c id).err ≠ none :=
  C08_monotone_build H o Ω _ _ (.only_unk hpq o.syn o.spec o.blk) vt vi rt0 hdr c id h

theorem C08_axis_blk_build (o : Opts) (Ω : Oracles) (p q : Pol) (hpq : p.le q = true) (vt : Bytes) (vi rt0 : Nat) (hdr : Fields) (c id : Bytes)
    (h : (build H { o with blk := p } Ω vt vi rt0 hdr c id).err ≠ none) : (build H { o with blk := q } Ω vt vi rt0 hdr c id).err ≠ none :=
  C08_monotone_build H o Ω _ _ (.only_blk hpq o.syn o.spec o.unk) vt vi rt0 hdr c id h


/-- the header parser alone along the syntax axis: what a stricter policy accepts, a more lenient one accepts with the
    same fields and the same remaining stream -/
theorem C08_parser_monotone (p q : Pol) (hpq : p.le q = true) (s : Stream) (fs : Fields) (f : List Tag) (s' : Stream)
    (h : parseFields q s = .ok fs f s') : ∃ f', parseFields p s = .ok fs f' s' :=
  (parseFields_le hpq h).imp (fun _ h => h.1)

/-- the order is the intended one and the premises are satisfiable: ignore ≤ warn ≤ fail, strictly -/
example : Pol.le .ignore .warn = true ∧ Pol.le .warn .fail = true ∧ Pol.le .fail .warn = false ∧ Pol.le .warn .ignore = false := by decide

/-- the hypothesis "rejected under the lenient setting" is met by real inputs: an empty stream is rejected under every setting -/
example (H : Alg → Bytes → Bytes) (o : Opts) (Ω : Oracles) : (unmarshal H o Ω ⟨[], false⟩).err ≠ none := by
  simp [unmarshal, skipJunk]

end Gowarc.Props.C08
