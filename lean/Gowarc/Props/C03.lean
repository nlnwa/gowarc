/-
  C03 — Length and digest verification is sound and complete.

  Model: Model/Digest.lean (encodings, detectEncoding, newDigest, validate, format), Model/Record.lean (validateDigest,
  checkDigest, trailer check in unmarshal). The hash is an arbitrary `H : Alg → Bytes → Bytes`.
  Tie: correspondence kinds `digest`, `enc`, `dec`, `hash` (function level, full algorithm × encoding × case × hyphen grid and
  every one-character corruption) and `unmarshal` / `build` with generator-known truth about the declared values.
-/
import Gowarc.Lemmas.MonadLemmas
import Gowarc.Lemmas.Base16
namespace Gowarc.Props.C03

/-- base16 decoding inverts encoding, for every byte string -/
theorem hex_roundtrip (b : Bytes) : hexDec (hexEnc b) = some b := by
  induction b with
  | nil => rfl
  | cons x rest ih => simp only [hexEnc_cons, hexDec, hexNib_hexChar _ (Byte.hi_lt x), hexNib_hexChar _ (Byte.lo_lt x), ih, Byte.nib_join]

theorem hexEnc_inj {l1 l2 : Bytes} (h : hexEnc l1 = hexEnc l2) : l1 = l2 :=
  Option.some.inj (by rw [← hex_roundtrip l1, ← hex_roundtrip l2, h])

/-! ### validate / format (any hash function) -/

variable (H : Alg → Bytes → Bytes)

/-- what `validate` tests: a declared value is accepted exactly when it decodes, in the encoding inferred for it, to the
    hash of the bytes -/
theorem validate_iff (d : Digest) (data : Bytes) :
    d.valid H data = true ↔ d.enc.decode d.hash = some (H d.alg data) := by
  simp [Digest.valid]

/-- what `format` writes is always accepted by `validate` for base16 (the builder's own value is truthful) -/
theorem format_valid_b16 (alg : Alg) (name : Bytes) (data : Bytes) :
    (⟨alg, name, lowerAscii (hexEnc (H alg data)), .b16⟩ : Digest).valid H data = true := by
  rw [validate_iff, Enc.decode, hexDec_lower, hex_roundtrip]

/-- a different hash is never accepted (base16): soundness, given that the hash function separates the two inputs -/
theorem wrong_digest_rejected_b16 (alg : Alg) (name : Bytes) (data other : Bytes) (hne : H alg other ≠ H alg data) :
    (⟨alg, name, hexEnc (H alg other), .b16⟩ : Digest).valid H data = false := by
  simp [Digest.valid, Enc.decode, hex_roundtrip, hne]

/-- checkDigest: a missing declared value is added (when asked to), and then it is the formatted true digest -/
theorem checkDigest_adds (o : Opts) (field : Bytes) (tag : Tag) (d : Digest) (data : Bytes) (st : St)
    (hempty : d.hash = []) (hadd : o.addMissingDigest = true) :
    checkDigest H o field tag d data st = (.ok (), { st with hdr := st.hdr.set field (d.format H data) }) := by
  -- the branch without a declared value: no check, the header is set
  simp only [checkDigest, hempty, List.isEmpty_nil, ↓reduceIte, hadd, M.bind_def, M.hdr_def, M.setHdr_def]

/-- checkDigest: a correct declared value is never reported and never rewritten, under any policy and any repair setting -/
theorem checkDigest_complete (o : Opts) (field : Bytes) (tag : Tag) (d : Digest) (data : Bytes) (st : St)
    (hne : d.hash ≠ []) (hok : d.valid H data = true) :
    checkDigest H o field tag d data st = (.ok (), st) := by
  -- the branch with a declared value; the condition of the finding and of the repair is false
  simp only [checkDigest, List.isEmpty_iff, hne, ↓reduceIte, hok, Bool.not_true, Bool.and_false, Bool.false_and,
    Bool.false_eq_true, condSite_false, M.bind_def, M.hdr_def, M.setHdr_def]

/-- checkDigest: a wrong declared value is ALWAYS reported when spec checking is on: a finding under warn, and with the
    repair option the header afterwards carries the true digest … -/
theorem checkDigest_sound_warn (o : Opts) (field : Bytes) (tag : Tag) (d : Digest) (data : Bytes) (st : St)
    (hne : d.hash ≠ []) (hbad : d.valid H data = false) (hw : o.spec = .warn) :
    checkDigest H o field tag d data st =
      (.ok (), ⟨if o.fixDigest then st.hdr.set field (d.format H data) else st.hdr, st.fnd ++ [tag]⟩) := by
  have hp : (Pol.warn != Pol.ignore) = true := rfl
  -- the branch with a declared value; the condition is true, `site .warn` adds the finding and goes on to the repair
  simp only [checkDigest, List.isEmpty_iff, hne, ↓reduceIte, hbad, hw, hp, Bool.not_false, Bool.and_true, Bool.true_and,
    condSite_true, site_warn, M.bind_def, M.hdr_def, M.setHdr_def]

/-- … and the error under fail -/
theorem checkDigest_sound_fail (o : Opts) (field : Bytes) (tag : Tag) (d : Digest) (data : Bytes) (st : St)
    (hne : d.hash ≠ []) (hbad : d.valid H data = false) (hf : o.spec = .fail) :
    checkDigest H o field tag d data st = (.error tag, st) := by
  have hp : (Pol.fail != Pol.ignore) = true := rfl
  -- the branch with a declared value; the condition is true, `site .fail` ends the run before the repair
  simp only [checkDigest, List.isEmpty_iff, hne, ↓reduceIte, hbad, hf, hp, Bool.not_false, Bool.and_true, condSite_true,
    site_fail, M.bind_def, M.hdr_def]

/-- the length check: a Content-Length that differs from the number of block bytes is always reported when spec checking
    is on, a correct one never -/
theorem lengthBad_iff (o : Opts) (h : Fields) (b : Block) (hs : o.spec ≠ .ignore) (hcl : h.has (bs "Content-Length") = true) :
    lengthBad o h b = true ↔ h.get (bs "Content-Length") ≠ natToDec b.raw.length := by
  simpa [lengthBad, hs, hcl] using not_congr eq_comm


/-- non-vacuity: a concrete encode/decode instance, upper-case spelling included -/
example : hexDec (upperAscii (hexEnc [0xAB, 0x01, 0xFF])) = some [0xAB, 0x01, 0xFF] := by decide +kernel

end Gowarc.Props.C03
