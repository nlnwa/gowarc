/-
  C08 — Error-policy coherence: ignore, warn and fail tell one story.

  Model: `unmarshal`, `build` (Model/Record.lean) with every policy decision going through `site` / `condSite`
  (ignore = nothing, warn = record a finding, fail = return the error) or the explicit policy switches of the header
  parser. Tie: correspondence kinds `xpol`, `xpolb` (each input under the three uniform levels and all 81 combinations),
  the four relations evaluated on the implementation, and the regenerated table of policy sites `Gen.policySites`.
-/
import Gowarc.Lemmas.RecordSim
import Gowarc.Gen.PolicySites
namespace Gowarc.Props.C08

variable (H : Alg → Bytes → Bytes)

/-- findings appear only when some axis is at warn (every mixture of ignore and fail is silent) -/
theorem C08_findings_need_warn (o : Opts) (Ω : Oracles) (s : Stream) (h : NoWarn o) : (unmarshal H o Ω s).fnd = [] := by
  obtain ⟨off, t, rest, hu⟩ | ⟨off, a, hsk, hoff⟩ := unmarshal_cases H o Ω s
  · rw [hu]
  · rw [unmarshal_of_skip H hsk hoff, atMagic_nofind H h]
    -- junk that is not refused is recorded only under warn
    cases hsyn : o.syn with
    | ignore => simp
    | warn => exact absurd hsyn h.syn
    | fail => simp [hoff hsyn]

/-- **under ignore no validation finding is produced** — parser and builder, every input, every reader fault, every
    option setting -/
theorem C08_ignore_unmarshal (o : Opts) (Ω : Oracles) (s : Stream) : (unmarshal H (o.uni .ignore) Ω s).fnd = [] :=
  C08_findings_need_warn H _ Ω s (.uni o nofun)

theorem C08_ignore_build (o : Opts) (Ω : Oracles) (vt : Bytes) (vi rt0 : Nat) (hdr : Fields) (c id : Bytes) :
    (build H (o.uni .ignore) Ω vt vi rt0 hdr c id).fnd = [] :=
  build_nofind H _ Ω vt vi rt0 hdr c id (.uni o nofun)

/-- **under fail a nil error comes with an empty validation** (in fact the validation is always empty under fail) -/
theorem C08_fail_clean_unmarshal (o : Opts) (Ω : Oracles) (s : Stream) : (unmarshal H (o.uni .fail) Ω s).fnd = [] :=
  C08_findings_need_warn H _ Ω s (.uni o nofun)

theorem C08_fail_clean_build (o : Opts) (Ω : Oracles) (vt : Bytes) (vi rt0 : Nat) (hdr : Fields) (c id : Bytes) :
    (build H (o.uni .fail) Ω vt vi rt0 hdr c id).fnd = [] :=
  build_nofind H _ Ω vt vi rt0 hdr c id (.uni o nofun)

/-- **fail returns an error exactly when warn produces at least one finding or an error** — parser and builder -/
theorem C08_fail_iff_warn_unmarshal (o : Opts) (Ω : Oracles) (s : Stream) :
    (unmarshal H (o.uni .fail) Ω s).err.isSome = true ↔
      ((unmarshal H (o.uni .warn) Ω s).err.isSome = true ∨ (unmarshal H (o.uni .warn) Ω s).fnd ≠ []) := by
  rw [unmarshal_eq, unmarshal_eq]
  cases skipJunk (s.rest.length + 1) s.rest 0 with
  | inl off => by_cases hoff : off > 0 <;> simp [hoff]
  | inr p =>
    obtain ⟨off, a⟩ := p
    by_cases hoff : off > 0
    · -- junk before the record: fail refuses it, warn records it
      have hne : (off != 0) = true := by simp; omega
      obtain ⟨e, he⟩ := (atMagic_sim H o Ω off [.synJunk] a s.fault).1
      simp [hoff, hne, he]
    · have h0 : off = 0 := by omega
      subst h0
      simpa using (atMagic_sim H o Ω 0 [] a s.fault).2

theorem C08_fail_iff_warn_build (o : Opts) (Ω : Oracles) (vt : Bytes) (vi rt0 : Nat) (hdr : Fields) (c id : Bytes) :
    (build H (o.uni .fail) Ω vt vi rt0 hdr c id).err.isSome = true ↔
      ((build H (o.uni .warn) Ω vt vi rt0 hdr c id).err.isSome = true ∨ (build H (o.uni .warn) Ω vt vi rt0 hdr c id).fnd ≠ []) := by
  rw [build_eq, build_eq, BRes.ofRun_err, BRes.ofRun_err, BRes.ofRun_fnd]
  exact (buildBody_sim H o Ω vt vi rt0 _ c).err_iff _

/-- consequence (uniform levels): an input rejected with an error under warn is rejected under fail -/
theorem C08_warn_error_implies_fail_error (o : Opts) (Ω : Oracles) (s : Stream)
    (h : (unmarshal H (o.uni .warn) Ω s).err.isSome = true) : (unmarshal H (o.uni .fail) Ω s).err.isSome = true :=
  (C08_fail_iff_warn_unmarshal H o Ω s).mpr (.inl h)


/-- the header parser alone: same story (used by warc-fields blocks as well) -/
theorem C08_parser_sim (s : Stream) : PSim [] (parseFields .warn s) (parseFields .fail s) := parseFields_sim s

/-- **regenerated obligation**: the places where the Go code consults an error policy, function by function, with the
    shape of every policy switch: the fail arm returns, the warn arm adds a finding (and possibly repairs), an ignore arm
    does nothing. A site that starts adding a finding under ignore, stops returning under fail, or a new site, changes this
    table. -/
theorem C08_sites : Gen.policySites = [
  ("Merge", "syn", "cmp:>ErrWarn"), ("Merge", "syn", "cmp:>ErrWarn"),
  ("Parse", "syn", "switch:Fr,I-,Wa"), ("Parse", "syn", "switch:Fr,I-,Wa"), ("Parse", "syn", "switch:Fr,I-,Wa"), ("Parse", "syn", "switch:Fr,I-,Wa"),
  ("Unmarshal", "syn", "cmp:>=ErrFail"), ("Unmarshal", "syn", "cmp:>=ErrWarn"), ("Unmarshal", "-", "addError-outside-switch"), ("Unmarshal", "syn", "switch:Fr,Wa"), ("Unmarshal", "spec", "switch:Fr,Wa"),
  ("ValidateDigest", "spec", "cmp:>ErrIgnore"), ("ValidateDigest", "spec", "switch:Fr,Was"), ("ValidateDigest", "spec", "cmp:>ErrIgnore"), ("ValidateDigest", "spec", "switch:Fr,I-,Was"), ("ValidateDigest", "spec", "cmp:>ErrIgnore"), ("ValidateDigest", "spec", "switch:Fr,I-,Was"),
  ("checkLegal", "spec", "cmp:>ErrIgnore"), ("checkLegal", "spec", "cmp:>ErrIgnore"),
  ("newHttpBlock", "syn", "switch:Fr,Wa"), ("newHttpBlock", "blk", "cmp:>ErrIgnore"), ("newHttpBlock", "blk", "cmp:==ErrWarn"), ("newHttpBlock", "-", "addError-outside-switch"), ("newHttpBlock", "blk", "cmp:>ErrIgnore"), ("newHttpBlock", "blk", "cmp:==ErrWarn"), ("newHttpBlock", "-", "addError-outside-switch"),
  ("newWarcFieldsBlock", "syn", "cmp:>ErrIgnore"), ("newWarcFieldsBlock", "syn", "switch:Fr,Wa"), ("newWarcFieldsBlock", "blk", "cmp:>ErrIgnore"), ("newWarcFieldsBlock", "blk", "switch:Fr,Wa"), ("newWarcFieldsBlock", "syn", "cmp:==ErrIgnore"),
  ("readLine", "syn", "cmp:>ErrIgnore"), ("readLine", "syn", "cmp:==ErrFail"),
  ("resolveRecordType", "spec", "switch:Fr,I-,Wa"), ("resolveRecordType", "unk", "switch:Fr,I-,Wa"),
  ("resolveRecordVersion", "spec", "switch:Dr,Fr,War"),
  ("validateHeader", "spec", "cmp:>ErrIgnore"), ("validateHeader", "spec", "switch:Fr,Wa"), ("validateHeader", "spec", "switch:Fr,Wa"), ("validateHeader", "spec", "switch:Fr,Wa"), ("validateHeader", "spec", "switch:Fr,Wa"), ("validateHeader", "spec", "switch:Fr,Wa")] := rfl

/-- every policy switch has the canonical shape -/
theorem C08_switch_shapes : Gen.policySites.all (fun s =>
    s.2.2.toList.take 7 != "switch:".toList || ["switch:Fr,Wa", "switch:Fr,I-,Wa", "switch:Fr,Was", "switch:Fr,I-,Was", "switch:Dr,Fr,War"].contains s.2.2) = true := by
  decide +kernel

/- Axis-by-axis monotonicity with the other axes held at arbitrary levels: Props/C08mono.lean. -/

end Gowarc.Props.C08
