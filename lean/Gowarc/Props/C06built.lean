/-
  C06 on top of C01: files made of records the strict builder produced.

  `C06_members_survive` — the hypothesis of `C06_survive` ("every member reads as a clean record whatever follows") is
  exactly what `C01_accepts` proves for `marshal ver r.hdr r.block.raw` of every record the strict builder returned: so
  for a file that is the concatenation of such members, cut anywhere, every reader returns the complete members
  unaltered, without findings, at their offsets, and then goes on with the cut remainder alone.
-/
import Gowarc.Props.C06
namespace Gowarc.Props.C06

variable (H : Alg → Bytes → Bytes)

/-- what `C01_accepts` establishes for one serialized record -/
def ReadsBack (o : Opts) (Ω : Oracles) (m : Bytes) (r : Rec) : Prop :=
  ∀ (tail : Bytes) (fault : Bool), unmarshal H o Ω ⟨m ++ tail, fault⟩ = ⟨some r, 0, [], none, tail⟩

theorem allReadAs_of_readsBack {o : Opts} {Ω : Oracles} {ms : List (Bytes × Rec)} (h : ∀ p ∈ ms, ReadsBack H o Ω p.1 p.2) :
    ∀ base, AllReadAs H o Ω base ms := by
  induction ms with
  | nil => intro base; trivial
  | cons p rest ih =>
    intro base
    obtain ⟨m, r⟩ := p
    refine ⟨?_, ih (fun q hq => h q (by simp [hq])) _⟩
    intro tail fault
    have := h (m, r) (by simp) tail fault
    rw [this]
    exact ⟨rfl, rfl, rfl, rfl, rfl⟩

/-- **complete records of a built file survive any cut**: the members before the cut come back unaltered, clean, at
    their offsets; reading then continues on what is left of the cut record -/
theorem C06_members_survive (o : Opts) (Ω : Oracles) (ms : List (Bytes × Rec)) (next : Bytes) (k fuel : Nat)
    (h : ∀ p ∈ ms, ReadsBack H o Ω p.1 p.2) :
    readLoop H o Ω (fuel + ms.length) 0 ⟨(ms.map (·.1)).flatten ++ next.take k, false⟩ =
      cleanItems 0 ms ++ readLoop H o Ω fuel (totalLen ms) ⟨next.take k, false⟩ :=
  C06_survive_cut H o Ω ms next k fuel (allReadAs_of_readsBack H h 0)

end Gowarc.Props.C06
