/-
  C01, the validation side of the round trip — a record the strict builder accepts is accepted SILENTLY by every reader.

  `C01_roundtrip` (C01comp.lean) says that what Unmarshal returns for a serialized record is exactly what was written.
  This file adds the other half of the property: for a record that `build` returned under the strict policy (syntax, spec
  and block axes at fail) without error, `unmarshal (marshal r ++ tail)` under ANY policy setting, any repair and
  add-missing options, any default digest algorithm/encoding of the reader, returns a record — no error, NO validation
  finding — at offset 0, with the same version, type, ordered header fields and block bytes, leaving exactly `tail`.
  Every block content (delimiter imitations included), every record type incl. unknown, both versions.

  Proof: the header set the builder validated has no spec defect (C17_strict); the digest fields the builder appends are
  legal on every record type (regenerated table) and keep it so; a digest value written by `format` is read back by
  `newDigest` as the same algorithm/encoding/value under every reader default and validates (C03_format_reparse); the block
  the strict builder accepted (HTTP head terminated and accepted by net/http, warc-fields block accepted by the strict header
  parser) is taken without finding under every policy (parser monotonicity, C08); the header text is the identity on clean
  fields (C19_clean_roundtrip); the block is cut out by its declared length and never scanned (C01_framing).
  `strict_build` collects what such a Build returned as facts about the record alone (`StrictBuilt`); `C01_accepts` takes
  a reader over the serialized record: `unmarshal_serialized` up to the block, `unmarshalTail_silent` from there.

  Hypotheses, each one a reading fixed in DESIGN 5.0 or a listed finding:
  * header fields clean in the sense of C19 (canonical names, no edge white space / LF / `=?`: findings C19-F15, C19-F17);
  * the caller supplied no digest fields of its own and the builder's add-missing-digest option is on (the default) —
    caller-supplied digests are C03's subject;
  * the type given to NewRecordBuilder, if any, is the one named by WARC-Type;
  * the reader's skip-parse-block option equals the builder's (with different settings the payload digest of a resource
    record is judged against different bytes by design);
  * for an unknown record type the reader's unknown-type axis is at ignore (at warn it reports the type: its job);
  * the reader's default digest algorithm is one it supports;
  * the block is no longer than an int64 can count (the decimal Content-Length then re-parses to the block length:
    `contentLengthOf_natToDec`, Lemmas/Decimal.lean).
-/
import Gowarc.Lemmas.Accept
import Gowarc.Lemmas.Decimal
import Gowarc.Lemmas.Serialized
import Gowarc.Props.C01comp
import Gowarc.Props.C17
namespace Gowarc.Props.C01
open Gowarc.Props.C19 Gowarc.Props.C17 Gowarc.Names

/-- "the builder accepts under strict policy", with the default add-missing-digest option -/
structure StrictBuilder (ob : Opts) : Prop where
  syn : ob.syn = .fail
  spec : ob.spec = .fail
  blk : ob.blk = .fail
  addDig : ob.addMissingDigest = true
  enc : ob.defaultEnc ≠ .unknown
  /-- the configured digest algorithm is a bare name (no `:value` part) -/
  bare : ∀ d, newDigest ob.defaultAlg ob.defaultEnc = some d → d.hash = []

variable (H : Alg → Bytes → Bytes)

/-- **a reader is silent where none of its sites fires**: a header set without defect whose Content-Length is the length
    of clean content, followed by the trailer, with digest fields that are true (`bd`, `pd`: the digest objects the
    reader makes of them). The record is explicit. -/
theorem unmarshalTail_silent {op : Opts} {Ω : Oracles} (vt : Bytes) {vid : Nat} {h : Fields} {c : Bytes} {bd pd : Digest} {b : Block}
    (hok : HdrOK op Ω vid h) (hlen : contentLengthOf h = (c.length : Int)) (hclv : h.get (bs "Content-Length") = natToDec c.length)
    (hc : CleanContent Ω c (blockCtor op (rtOf h) h))
    (hbd : digestOfField op h (bs "WARC-Block-Digest") = some bd) (hpd : digestOfField op h (bs "WARC-Payload-Digest") = some pd)
    (hb : b = plainBlock (blockCtor op (rtOf h) h) (rtOf h) c bd pd) (hbdS : SilentDigest H op bd c)
    (hpdS : (rtOf h == RT_Revisit || h.has (bs "WARC-Segment-Number")) = false → ∀ q, b.payloadDigest = some q → SilentDigest H op q b.payload)
    (tail : Bytes) (fault : Bool) :
    unmarshalTail H op Ω vt vid h ⟨c ++ crlfcrlf ++ tail, fault⟩ ⟨[], []⟩ = (.ok (some ⟨vt, vid, rtOf h, h, b⟩, tail), ⟨h, []⟩) := by
  obtain ⟨f1, f2, f3⟩ := C01_framing c tail
  have hshort : decide ((c ++ crlfcrlf ++ tail).length < c.length) = false := by
    simp only [List.length_append, decide_eq_false_iff_not]; omega
  have hneg : ¬ ((c.length : Int) < 0) := by omega
  have hvd := validateDigest_silent H op (rtOf h) b h [] (by rw [hb, plainBlock_raw]; exact hclv)
    (by rw [hb, plainBlock_blockDigest, plainBlock_raw]; exact hbdS) hpdS
  -- forward through the stages of `unmarshalTail`: each returns silently and leaves the state as it was
  unfold unmarshalTail
  simp only [M.bind_def, M.setHdr_def, validateHeader_silent op Ω vid h [] hok, M.hdr_def, hlen, hneg, ↓reduceIte, Int.toNat_natCast,
    f1, f2, f3, Bool.false_and, parseBlock_clean op (s := ⟨h, []⟩) hc hbd hpd, ← hb, hvd, condFail, Bool.false_eq_true, M.pure_def,
    bne_self_eq_false, condSite_false, beq_self_eq_true, decide_false, Bool.or_false, hshort, Bool.and_false]

/-- **what a strict Build returned**: the record `r` made of `content`; `d0` is the digest object of the builder's
    configured default, `k` the block constructor it dispatched to -/
structure StrictBuilt (ob : Opts) (Ω : Oracles) (vt : Bytes) (vid : Nat) (content : Bytes) (r : Rec) (d0 : Digest) (k : BlockCtor) :
    Prop where
  verTxt : r.verTxt = vt
  verId : r.verId = vid
  /-- the header passed the strict header validation, and the digest fields added to it since are harmless -/
  typed : (typeFieldOf r.hdr).isEmpty = false
  defects : specDefects Ω vid r.hdr = []
  rt : rtOf r.hdr = r.rt
  /-- ValidateDigest found the declared length right -/
  lengthText : r.hdr.get (bs "Content-Length") = natToDec content.length
  length : contentLengthOf r.hdr = (content.length : Int)
  /-- the block is the content, taken as given by the constructor that every reader with the builder's skip-parse-block
      setting dispatches to -/
  ctor : ∀ op : Opts, op.skipParseBlock = ob.skipParseBlock → blockCtor op r.rt r.hdr = k
  clean : CleanContent Ω content k
  block : r.block = plainBlock k r.rt content d0 d0
  /-- the digest fields are the builder's own: the block digest always, the payload digest where ValidateDigest looks
      at one -/
  default : newDigest ob.defaultAlg ob.defaultEnc = some d0
  blockDigest : r.hdr.has (bs "WARC-Block-Digest") = true ∧ r.hdr.get (bs "WARC-Block-Digest") = d0.format H content
  payloadDigest :
    if !(r.rt == RT_Revisit || r.hdr.has (bs "WARC-Segment-Number")) && r.block.payloadDigest.isSome then
      r.hdr.has (bs "WARC-Payload-Digest") = true ∧ r.hdr.get (bs "WARC-Payload-Digest") = d0.format H r.block.payload
    else r.hdr.has (bs "WARC-Payload-Digest") = false

theorem strict_build {ob : Opts} {Ω : Oracles} {vt : Bytes} {vid rt0 : Nat} {hdr : Fields} {content newId : Bytes} {r : Rec}
    (hsb : StrictBuilder ob)
    (hnoBD : hdr.has (bs "WARC-Block-Digest") = false) (hnoPD : hdr.has (bs "WARC-Payload-Digest") = false)
    (hrec : (build H ob Ω vt vid rt0 hdr content newId).record = some r)
    (hrt : rt0 = 0 ∨ rt0 = rtOf r.hdr) (hsize : content.length ≤ 9223372036854775807) :
    ∃ d0 k, StrictBuilt H ob Ω vt vid content r d0 k := by
  obtain ⟨sd, hbody⟩ := build_ok H hrec
  have hprep := has_builderHdr_other ob hdr content newId
  -- the header Build validates stays a variable: the steps below rewrite inside it
  generalize builderHdr ob hdr content newId = hdr2 at hbody hprep
  have hnoBD2 : hdr2.has (bs "WARC-Block-Digest") = false := by rw [hprep _ BD_ne_ID CL_ne_BD.symm]; exact hnoBD
  have hnoPD2 : hdr2.has (bs "WARC-Payload-Digest") = false := by rw [hprep _ PD_ne_ID CL_ne_PD.symm]; exact hnoPD
  -- the stages of Build and the states they leave: header validation (`sv`), parseBlock, ValidateDigest (`sd`, whose
  -- header `r` carries)
  obtain ⟨rtv, b, sv, sp, hv, -, hpb, hvd, hr⟩ := buildBody_ok H hbody
  obtain ⟨hrtv, hsvh⟩ := C17_strict_result ob Ω vid hdr2 hsb.spec rtv sv hv
  obtain ⟨htype, -, hdef⟩ := (C17_strict ob Ω vid hdr2 hsb.spec).mp ⟨rtv, sv, hv⟩
  obtain ⟨svh, svf⟩ := sv
  obtain rfl : hdr2 = svh := hsvh.symm
  -- `rt`, the type Build goes on with: the one handed to NewRecordBuilder, or for 0 the one header validation returned
  generalize hrtdef : (if (rt0 == 0) = true then rtv else rt0) = rt at hpb hvd hr
  -- the block it accepted is clean content, taken as given, with the bare default digest object twice
  have hc := parseBlock_strict_ok hsb.syn hsb.blk hpb
  obtain ⟨d0, pd0, hbd0, hpd0, -⟩ := parseBlock_ok hpb
  rw [parseBlock_clean ob hc hbd0 hpd0] at hpb
  cases hpb
  have hd0 : newDigest ob.defaultAlg ob.defaultEnc = some d0 := (digestOfField_absent hnoBD2).symm.trans hbd0
  obtain rfl : d0 = pd0 := Option.some.inj (hd0.symm.trans ((digestOfField_absent hnoPD2).symm.trans hpd0))
  have hbare := hsb.bare d0 hd0
  generalize hk : blockCtor ob rt hdr2 = k at hc hvd hr
  -- so the builder has no length to adjust, and ValidateDigest finds the length right and adds the digests
  rw [plainBlock_raw, bne_self_eq_false, Bool.and_false, Fields.setIf_false] at hvd
  have hreq : hdr2.has (bs "Content-Length") = true := ((specDefects_nil_iff Ω vid hdr2).mp hdef).2.1 "Content-Length" (by decide)
  obtain ⟨-, hclv, hfin⟩ := validateDigest_strict_fresh H ob rt _ _ sd hsb.spec hsb.addDig
    (by rw [plainBlock_blockDigest]; exact hbare) (fun q hq => (plainBlock_payloadDigest _ _ _ _ _ d0 d0 hq).1 ▸ hbare) hreq hvd
  rw [finalHdr_eq] at hfin
  simp only [plainBlock_raw, plainBlock_blockDigest] at hfin hclv
  subst hr
  -- the header the record carries is the validated one with the block digest and, where ValidateDigest looks at one,
  -- the payload digest: what a reader asks of it, it asks of the validated one
  have hnoPDh1 : (hdr2.set (bs "WARC-Block-Digest") (d0.format H content)).has (bs "WARC-Payload-Digest") = false := by
    rw [has_set_other BD_ne_PD.symm]; exact hnoPD2
  have hadd : AddsDigests Ω vid hdr2 sd.hdr := by
    rw [hfin]; exact (AddsDigests.set _ (by simp) hnoBD2).trans (.setIf _ _ (by simp) hnoPDh1)
  -- `hrt`: in both cases `rt` is the type WARC-Type names
  have hrtfin : rtOf sd.hdr = rt := by
    rw [hadd.rtOf, ← hrtdef, hrtv]
    rcases hrt with h0 | h0
    · rw [h0]; rfl
    · have h0 : rt0 = rtOf sd.hdr := h0
      rw [h0, hadd.rtOf, ite_self]
  refine ⟨d0, k, {
    verTxt := rfl, verId := rfl, rt := hrtfin, typed := (hadd.typeField ▸ htype), defects := hadd.defects hdef
    lengthText := hadd.lengthText.trans hclv, length := hadd.length.trans (contentLengthOf_natToDec hdr2 _ hsize hreq hclv)
    ctor := fun op hskip => ?_, clean := hc, block := rfl
    default := hd0, blockDigest := ?_, payloadDigest := ?_ }⟩
  · rw [← hk]; unfold blockCtor; rw [hskip, hadd.contentType]
  · dsimp only
    rw [hfin, has_setIf_other BD_ne_PD, has_set_same, get_setIf_other BD_ne_PD, get_set_same]
    exact ⟨rfl, rfl⟩
  · -- the condition of the field is the condition under which `hfin` sets the payload digest
    dsimp only
    rw [hadd.segment, ← has_set_other (v := d0.format H content) Seg_ne_BD, hfin]
    split
    · next h =>
      obtain ⟨q, hq⟩ := Option.isSome_iff_exists.mp (Bool.and_eq_true_iff.mp h).2
      rw [h, hq, (plainBlock_payloadDigest _ _ _ _ _ d0 d0 hq).1]
      exact ⟨has_set_same _ _ _, get_set_same _ _ _⟩
    · next h => rw [eq_false_of_ne_true h, Fields.setIf_false]; exact hnoPDh1

/-- **a record the strict builder accepted is accepted silently by every reader, unaltered** -/
theorem C01_accepts (ob op : Opts) (Ω : Oracles) (ver : String) (vid : Nat) (hver : (ver, vid) ∈ Gen.versions)
    (hfind : Gen.versions.find? (fun p => bs p.1 == bs ver) = some (ver, vid))
    (hnolf : LF ∉ bs ver) (htrim : trim isWs (bs ver ++ crlf) = bs ver)
    (rt0 : Nat) (hdr : Fields) (content newId : Bytes) (r : Rec)
    (hsb : StrictBuilder ob)
    (hnoBD : hdr.has (bs "WARC-Block-Digest") = false) (hnoPD : hdr.has (bs "WARC-Payload-Digest") = false)
    (hH : ∀ a x, (H a x).length = a.size)
    (hrec : (build H ob Ω (bs ver) vid rt0 hdr content newId).record = some r)
    (herr : (build H ob Ω (bs ver) vid rt0 hdr content newId).err = none)
    (hrt : rt0 = 0 ∨ rt0 = rtOf r.hdr)
    (hclean : ∀ nv ∈ r.hdr, CleanField nv)
    (hsize : content.length ≤ 9223372036854775807)
    (hskip : op.skipParseBlock = ob.skipParseBlock)
    (hunk : rtOf r.hdr = 0 → op.unk = .ignore)
    (hdflt : ∃ d, newDigest op.defaultAlg op.defaultEnc = some d) :
    ∃ r', (∀ (tail : Bytes) (fault : Bool),
        unmarshal H op Ω ⟨marshal (bs ver) r.hdr r.block.raw ++ tail, fault⟩ = ⟨some r', 0, [], none, tail⟩) ∧
      r'.hdr = r.hdr ∧ r'.block.raw = r.block.raw ∧ r.block.raw = content ∧ r'.rt = r.rt ∧ r'.verTxt = r.verTxt ∧ r'.verId = r.verId := by
  obtain ⟨d0, k, sb⟩ := strict_build H hsb hnoBD hnoPD hrec hrt hsize
  have hkr : blockCtor op (rtOf r.hdr) r.hdr = k := by rw [sb.rt]; exact sb.ctor op hskip
  -- the digest objects the reader makes of the two fields
  obtain ⟨dB, hdB, hsB⟩ := written_digest_silent H op content sb.default hsb.enc hH
  have hbd : digestOfField op r.hdr (bs "WARC-Block-Digest") = some dB := by
    rw [digestOfField_present sb.blockDigest.1, sb.blockDigest.2]; exact hdB
  obtain ⟨pd, hpd, hpdS⟩ : ∃ pd, digestOfField op r.hdr (bs "WARC-Payload-Digest") = some pd ∧
      ((r.rt == RT_Revisit || r.hdr.has (bs "WARC-Segment-Number")) = false →
        ∀ q, (plainBlock k r.rt content dB pd).payloadDigest = some q → SilentDigest H op q (plainBlock k r.rt content dB pd).payload) := by
    have hP := sb.payloadDigest
    rw [sb.block] at hP
    split at hP
    · -- the payload digest of the builder's default algorithm was added
      obtain ⟨dP, hdP, hsP⟩ := written_digest_silent H op (plainBlock k r.rt content d0 d0).payload sb.default hsb.enc hH
      refine ⟨dP, by rw [digestOfField_present hP.1, hP.2]; exact hdP, fun _ q hq => ?_⟩
      rw [(plainBlock_payloadDigest _ _ _ _ _ d0 d0 hq).1, plainBlock_payload _ _ _ _ _ d0 d0]; exact hsP
    · -- none was added: the reader starts from its default, and has none to check
      next hno =>
      obtain ⟨dflt, hdfl⟩ := hdflt
      refine ⟨dflt, by rw [digestOfField_absent hP]; exact hdfl, fun hsk q hq => ?_⟩
      exact absurd (by rw [hsk, (plainBlock_payloadDigest _ _ _ _ _ d0 d0 hq).2]; rfl) hno
  -- its run
  have hne : r.hdr ≠ [] := fun he => by have := sb.typed; simp [he, typeFieldOf] at this
  refine ⟨⟨bs ver, vid, r.rt, r.hdr, plainBlock k r.rt content dB pd⟩, fun tail fault => ?_, rfl, ?_, ?_, rfl, sb.verTxt.symm, sb.verId.symm⟩
  · rw [sb.block, plainBlock_raw, marshal_eq, List.append_assoc,
      unmarshal_serialized H op Ω ver vid hver hfind hnolf htrim r.hdr hne hclean _ fault,
      unmarshalTail_silent H (bs ver) ⟨sb.typed, hunk, sb.defects⟩ sb.length sb.lengthText (hkr ▸ sb.clean) hbd hpd (by rw [hkr])
        hsB (by rw [sb.rt]; exact hpdS) tail fault, sb.rt]
  · rw [sb.block, plainBlock_raw, plainBlock_raw]
  · rw [sb.block, plainBlock_raw]

/-! ### non-vacuity: the hypotheses are met by a concrete record -/

def exH : Alg → Bytes → Bytes := fun a _ => List.replicate a.size 7
def exΩ : Oracles := ⟨fun _ => true, fun _ => true, fun _ => true, fun _ _ => true, fun _ => none⟩
def exOb : Opts := ⟨.fail, .fail, .fail, .fail, false, true, true, true, true, true, true, false, bs "sha1", .b32⟩
def exHdr : Fields := [(bs "WARC-Type", bs "resource"), (bs "WARC-Date", bs "2020-01-02T03:04:05Z"),
  (bs "WARC-Target-URI", bs "http://example.com/"), (bs "Content-Type", bs "text/plain")]

example : StrictBuilder exOb := by
  refine ⟨rfl, rfl, rfl, rfl, by decide, ?_⟩
  intro d h
  have h' : newDigest exOb.defaultAlg exOb.defaultEnc = some ⟨.sha1, bs "sha1", [], .b32⟩ := by decide +kernel
  rw [h'] at h
  simp only [Option.some.injEq] at h
  rw [← h]

example : (build exH exOb exΩ (bs "1.1") 2 4 exHdr (bs "WARC/1.1\r\n\r\n") (bs "urn:uuid:1")).err = none ∧
    ((build exH exOb exΩ (bs "1.1") 2 4 exHdr (bs "WARC/1.1\r\n\r\n") (bs "urn:uuid:1")).record.map
      (fun r => r.hdr.all cleanB && r.hdr.length == 8 && rtOf r.hdr == 4)) = some true ∧
    exHdr.has (bs "WARC-Block-Digest") = false ∧ exHdr.has (bs "WARC-Payload-Digest") = false ∧
    (∀ a x, (exH a x).length = a.size) := by
  -- the four closed conjuncts are grouped so that one evaluation covers them: the kernel then runs `build` once
  exact and_assoc.mp (and_assoc.mp (and_assoc.mp ⟨by decide +kernel, fun a x => by simp [exH]⟩))

end Gowarc.Props.C01
