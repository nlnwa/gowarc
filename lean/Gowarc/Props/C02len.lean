/-
  C02, "under every error-policy setting": the Content-Length the builder adds itself equals the exact number of block
  bytes that get serialized — for EVERY policy setting (spec checking off included) and every repair option, every block
  kind, every content (shorter than 2^63 - 2 bytes).

  `C02_build_truthful` needs spec checking on (the length is then checked and repaired by ValidateDigest). This theorem
  follows the field from the moment the builder adds it: the HTTP-terminator repair adds the two bytes it appends, the
  warc-fields block repair is followed by the adjustment Build makes to a Content-Length it added, ValidateDigest never
  disagrees.
-/
import Gowarc.Lemmas.Inversion
import Gowarc.Lemmas.Decimal
namespace Gowarc.Props.C02

variable (H : Alg → Bytes → Bytes)

theorem validateDigest_length (o : Opts) (rt : Nat) (b : Block) (fault : Bool) (st st' : St)
    (hget : st.hdr.get (bs "Content-Length") = natToDec b.raw.length)
    (h : validateDigest H o rt b fault st = (.ok (), st')) :
    st'.hdr.get (bs "Content-Length") = natToDec b.raw.length := by
  rw [(validateDigest_ok H h).1, get_validatedHdr_length]
  split
  · rfl
  · exact hget

/-- the terminator repair of an HTTP block keeps a truthful Content-Length truthful: two bytes more, two added -/
theorem httpRepair_length (o : Opts) {c : Bytes} {h : Fields} (hsz : c.length + 2 ≤ 9223372036854775807)
    (hcl : h.has (bs "Content-Length") = true) (hget : h.get (bs "Content-Length") = natToDec c.length) :
    (if !(headerBytes c).2.2 && o.fixSyntaxErrors && h.has (bs "Content-Length")
      then setInt h (bs "Content-Length") (wrap64 (contentLengthOf h + 2)) else h).get (bs "Content-Length") =
    natToDec (httpHead o c ++ (headerBytes c).2.1).length := by
  have hlen : (headerBytes c).1.length + (headerBytes c).2.1.length = c.length := by
    have := congrArg List.length (headerBytes_append c); simpa using this
  unfold httpHead
  by_cases hrep : (!(headerBytes c).2.2 && o.fixSyntaxErrors) = true
  · simp only [hrep, hcl, Bool.and_self, ↓reduceIte]
    unfold setInt
    rw [get_set_same, contentLengthOf_natToDec _ _ (by omega) hcl hget]
    have hw : wrap64 ((c.length : Int) + 2) = ((c.length + 2 : Nat) : Int) := by
      unfold wrap64
      have : ¬ ((c.length : Int) + 2 > 9223372036854775807) := by omega
      simp only [this, ↓reduceIte]; omega
    rw [hw]
    simp only [intToDec, List.length_append, crlf, List.length_cons, List.length_nil]
    congr 1
    omega
  · simp only [hrep, Bool.false_eq_true, ↓reduceIte, Bool.false_and, List.length_append, hget, hlen]

/-- the length field through parseBlock: it follows the HTTP-terminator repair; a warc-fields block may have been
    rewritten (its length is then adjusted by Build) -/
theorem parseBlock_length (o : Opts) (Ω : Oracles) (rt : Nat) (content : Bytes) (s s' : St) (b : Block)
    (hsz : content.length + 2 ≤ 9223372036854775807)
    (hcl : s.hdr.has (bs "Content-Length") = true) (hget : s.hdr.get (bs "Content-Length") = natToDec content.length)
    (h : parseBlock o Ω rt content false s = (.ok b, s')) :
    (b.kind ≠ .warcFields → s'.hdr.get (bs "Content-Length") = natToDec b.raw.length) ∧
    (b.kind = .warcFields → s'.hdr.get (bs "Content-Length") = natToDec content.length) := by
  obtain ⟨bd, pd, -, -, hh | ⟨-, rfl, rfl⟩ | hw | ⟨rfl, rfl⟩⟩ := parseBlock_ok h
  · obtain ⟨rfl, e, -⟩ := newHttpBlock_ok hh
    exact ⟨fun _ => by rw [e]; exact httpRepair_length o hsz hcl hget, fun hk => by dsimp only at hk; split at hk <;> cases hk⟩
  · exact ⟨fun _ => hget, nofun⟩
  · obtain ⟨e, -, -, raw, rfl⟩ := newWarcFieldsBlock_ok hw
    exact ⟨fun hne => absurd rfl hne, fun _ => by rw [e]; exact hget⟩
  · exact ⟨fun _ => hget, nofun⟩

/-- **the Content-Length the builder adds is the length of the serialized block, under every policy** -/
theorem C02_length_every_policy (o : Opts) (Ω : Oracles) (verTxt : Bytes) (verId rt0 : Nat) (hdr : Fields) (content newId : Bytes) (r : Rec)
    (hadd : o.addMissingContentLength = true)
    (hno : (if (o.addMissingRecordId && !hdr.has (bs "WARC-Record-ID")) = true then hdr.setId (bs "WARC-Record-ID") newId else hdr).has (bs "Content-Length") = false)
    (hsz : content.length + 2 ≤ 9223372036854775807)
    (hb : (build H o Ω verTxt verId rt0 hdr content newId).record = some r)
    (he : (build H o Ω verTxt verId rt0 hdr content newId).err = none) :
    r.hdr.get (bs "Content-Length") = natToDec r.block.raw.length := by
  obtain ⟨sd, hbody⟩ := build_ok H hb
  have hcla : builderAddsCL o hdr newId = true := by unfold builderAddsCL; rw [hadd, hno]; rfl
  rw [hcla] at hbody
  obtain ⟨rtv, b, s1, s2, -, k1, hp, hd, rfl⟩ := buildBody_ok H hbody
  -- the builder's own Content-Length is truthful when validation starts …
  obtain ⟨hnwf, hwf⟩ := parseBlock_length o Ω _ content s1 s2 b hsz (by rw [k1]; exact (builderHdr_added content hcla).1)
    (by rw [k1]; exact (builderHdr_added content hcla).2) hp
  -- … and still (or again, after Build's adjustment to a rewritten warc-fields block) when ValidateDigest starts
  refine validateDigest_length H o _ b false _ _ ?_ hd
  rw [get_setIf_same]
  split
  · rfl
  · rename_i hc
    by_cases hk : b.kind = .warcFields
    · rw [hwf hk]
      have : b.raw.length = content.length := by simpa [hk] using hc
      rw [this]
    · exact hnwf hk

end Gowarc.Props.C02
