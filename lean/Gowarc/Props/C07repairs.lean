/-
  C07, the clause about repair options: "with repair options on, only the documented repairs (Content-Length, block and
  payload digest fields, a missing HTTP header terminator) may differ".

  For the header this is proved here at full strength and for every policy and option setting: the record Unmarshal
  returns carries the parsed header with every field other than Content-Length, WARC-Block-Digest and WARC-Payload-Digest
  UNTOUCHED — same names, same values, same multiplicities, same relative order (`others r.hdr = others fs`). What the
  three repairable fields hold afterwards is the subject of C02 / C03.
-/
import Gowarc.Lemmas.Runs
import Gowarc.Lemmas.Preserves
import Gowarc.Lemmas.FieldsLemmas
namespace Gowarc.Props.C07

/-- the three fields a repair option may rewrite -/
def repairable (k : Bytes) : Bool :=
  k == canon (bs "Content-Length") || k == canon (bs "WARC-Block-Digest") || k == canon (bs "WARC-Payload-Digest")

def others (fs : Fields) : Fields := fs.filter (fun p => !repairable p.1)

theorem others_set (fs : Fields) (n v : Bytes) (hn : repairable (canon n) = true) : others (fs.set n v) = others fs :=
  filter_set (fun k => !repairable k) fs n v (by simp [hn])

theorem repairable_keys : repairable (canon (bs "Content-Length")) = true ∧ repairable (canon (bs "WARC-Block-Digest")) = true ∧
    repairable (canon (bs "WARC-Payload-Digest")) = true := by simp [repairable]

theorem sets_repairable {x : Fields} {n v : Bytes} (hn : repairable (canon n) = true) : Sets (others ·.hdr = x) n v :=
  fun _ h => (others_set _ _ _ hn).trans h

/-! ### readings of the `Preserves` lemmas: a step leaves the other fields alone (`Others`) -/

structure Others {α} (m : M α) : Prop where
  h : ∀ s, others (m s).2.hdr = others s.hdr

namespace Others
theorem of_preserves {α} {m : M α} (h : ∀ x, Preserves (others ·.hdr = x) m) : Others m := ⟨fun s => h _ s rfl⟩
/-- read the header, write back either the same header or one with a repairable field set -/
theorem setField (n : Bytes) (hn : repairable (canon n) = true) (c : Fields → Bool) (f : Fields → Bytes) :
    Others (do let h ← M.hdr; M.setHdr (if c h then h.set n (f h) else h)) :=
  .of_preserves fun _ => .modify _ fun s => Sets.cond (fun _ => sets_repairable hn) s
end Others

theorem parseBlock_others (o : Opts) (Ω : Oracles) (rt : Nat) (c : Bytes) (fault : Bool) : Others (parseBlock o Ω rt c fault) :=
  .of_preserves fun x => parseBlock_preserves (fun _ => .of_hdr (others · = x)) fun _ _ => sets_repairable repairable_keys.1

variable (H : Alg → Bytes → Bytes)

theorem validateDigest_others (o : Opts) (rt : Nat) (b : Block) (fault : Bool) : Others (validateDigest H o rt b fault) :=
  .of_preserves fun x => validateDigest_preserves (fun _ => .of_hdr (others · = x)) H
    (fun _ => sets_repairable repairable_keys.1) (fun _ => sets_repairable repairable_keys.2.1)
    (fun _ _ _ => sets_repairable repairable_keys.2.2)

/-- **only the documented repairs touch the header**: under every policy and every repair-option setting, the record
    Unmarshal returns carries the parsed header with every field other than Content-Length, WARC-Block-Digest and
    WARC-Payload-Digest untouched: same names, values, multiplicities and relative order -/
theorem C07_repairs_only (o : Opts) (Ω : Oracles) (vt : Bytes) (vi : Nat) (fs : Fields) (s' : Stream) (st st' : St)
    (r : Rec) (rest : Bytes)
    (h : unmarshalTail H o Ω vt vi fs s' st = (.ok (some r, rest), st')) :
    others r.hdr = others fs := by
  have hI := unmarshalTail_preserves (o := o) (fun _ => .of_hdr (others · = others fs)) H
    ⟨fun _ _ => sets_repairable repairable_keys.1, fun _ _ => ⟨sets_repairable repairable_keys.2.1, sets_repairable repairable_keys.2.2⟩⟩
    Ω vt vi fs s' st rfl
  rw [h] at hI
  -- the record carries the header of the final state
  obtain ⟨_, _, _, _, _, -, -, -, -, -, -, hr, -⟩ := unmarshalTail_ok H h
  cases hr
  exact hI

/-- consequence for the accessors: every value list of a non-repairable field is what was parsed -/
theorem others_getAll {a b : Fields} (h : others a = others b) {k : Bytes} (hk : repairable (canon k) = false) :
    a.getAll k = b.getAll k := by
  have key : ∀ fs : Fields, fs.getAll k = (others fs).getAll k := by
    intro fs
    unfold Fields.getAll others
    rw [List.filter_filter]
    congr 1
    apply List.filter_congr
    intro p _
    by_cases hp : (p.1 == canon k) = true
    · have : p.1 = canon k := by simpa using hp
      simp [this, hk]
    · simp [hp]
  rw [key a, key b, h]

theorem C07_repairs_only_getAll (o : Opts) (Ω : Oracles) (vt : Bytes) (vi : Nat) (fs : Fields) (s' : Stream) (st st' : St)
    (r : Rec) (rest : Bytes) (k : Bytes) (hk : repairable (canon k) = false)
    (h : unmarshalTail H o Ω vt vi fs s' st = (.ok (some r, rest), st')) :
    r.hdr.getAll k = fs.getAll k :=
  others_getAll (C07_repairs_only H o Ω vt vi fs s' st st' r rest h) hk

/-- non-vacuity: the filter keeps e.g. WARC-Type and WARC-Date and drops exactly the three repairable fields -/
example : others [(bs "WARC-Type", bs "response"), (bs "Content-Length", bs "5"), (bs "WARC-Block-Digest", bs "sha1:X"),
    (bs "WARC-Date", bs "d"), (bs "WARC-Payload-Digest", bs "sha1:Y")] = [(bs "WARC-Type", bs "response"), (bs "WARC-Date", bs "d")] := by decide +kernel

end Gowarc.Props.C07
