/-
  C03, completeness across the three encodings: what `format` writes is READ BACK by `newDigest` as the same algorithm,
  the same encoding and the same value, whatever default encoding the reading side is configured with — so a digest field
  written by this library is never reported by this library, in any supported algorithm and encoding.

  `detectEncoding` infers the encoding from the length of the value (and, for MD5, where base16 and base32 both have 32
  characters, from a trailing `=`); the theorem says that inference is right for every hash value of the algorithm's size.
-/
import Gowarc.Lemmas.DigestDetect
import Gowarc.Props.C03enc
namespace Gowarc.Props.C03

/-- an MD5 value (16 bytes) ends in `=` in base32: by this `detectEncoding` tells it from base16, which has 32 characters too -/
theorem b32Enc_md5_pad {alg : Alg} {hash : Bytes} (hlen : hash.length = alg.size) (h : alg = .md5) :
    (b32Enc hash).getLast? = some 61 :=
  b32Enc_last_pad hash (by rw [hlen, h]; decide)

/-- **the encoding of a well-formed digest value is inferred correctly**, for all four algorithms, all three encodings,
    every hash value of the algorithm's size, independent of the configured default -/
theorem C03_detect (alg : Alg) (e : Enc) (he : e ≠ .unknown) (hash : Bytes) (hlen : hash.length = alg.size) (dflt : Enc) :
    detectEncoding alg.name (e.encode hash) dflt = e := by
  cases e with
  | unknown => exact absurd rfl he
  | b16 => exact detect_b16 (by rw [Enc.encode, hexEnc_length, hlen]) (hexEnc_last_ne_pad hash)
  | b32 => exact detect_b32 (by rw [Enc.encode, b32Enc_length, hlen]) (b32Enc_md5_pad hlen)
  | b64 => exact detect_b64 (by rw [Enc.encode, b64Enc_length, hlen])

/-- an encoded hash behind any spelling of the algorithm's name is read as the canonical digest object: the encoding
    is inferred, and the normalisation finds nothing to do -/
theorem newDigest_encode {alg : Alg} {sp : Bytes} (hn : normalizeAlg sp = alg.name) (e : Enc) (he : e ≠ .unknown)
    {hash : Bytes} (hlen : hash.length = alg.size) (dflt : Enc) :
    newDigest (sp ++ [COLON] ++ e.encode hash) dflt = some ⟨alg, alg.name, e.encode hash, e⟩ := by
  rw [newDigest_spelled hn, C03_detect alg e he hash hlen, normHash_encode]

/-- **a written digest field is read back as itself**: `newDigest` applied to `name:encode(hash)` yields the same
    algorithm, name, encoding and (already normalised) value, for every default encoding of the reader -/
theorem C03_newDigest_format (alg : Alg) (e : Enc) (he : e ≠ .unknown) (hash : Bytes) (hlen : hash.length = alg.size) (dflt : Enc) :
    newDigest (alg.name ++ [COLON] ++ e.encode hash) dflt = some ⟨alg, alg.name, e.encode hash, e⟩ :=
  newDigest_encode (alg_name_facts alg).2.1 e he hlen dflt

/-- whatever `newDigest` returns carries the canonical name of its algorithm -/
theorem newDigest_name (s : Bytes) (dflt : Enc) (d : Digest) (h : newDigest s dflt = some d) : d.name = d.alg.name :=
  (digestOf_some (newDigest_eq s dflt ▸ h)).1

variable (H : Alg → Bytes → Bytes)

/-- **completeness, end to end for one field**: the value `format` writes for a digest object obtained from `newDigest`
    is parsed by any reader into a digest that is non-empty and valid for the same data -/
theorem C03_format_reparse (d : Digest) (hname : d.name = d.alg.name) (he : d.enc ≠ .unknown) (data : Bytes)
    (hH : (H d.alg data).length = d.alg.size) (dflt : Enc) :
    ∃ d', newDigest (d.format H data) dflt = some d' ∧ d'.hash ≠ [] ∧ d'.valid H data = true := by
  refine ⟨⟨d.alg, d.alg.name, d.enc.encode (H d.alg data), d.enc⟩, ?_, ?_, ?_⟩
  · unfold Digest.format; rw [hname]; exact C03_newDigest_format d.alg d.enc he _ hH dflt
  · intro hnil
    have hl := congrArg List.length hnil
    have hpos : 0 < d.alg.size := by cases d.alg <;> decide
    cases hd : d.enc with
    | unknown => exact he hd
    | b16 | b32 | b64 =>
      simp only [hd, Enc.encode, hexEnc_length, b32Enc_length, b64Enc_length, hH, b32EncodedLen, b64EncodedLen, List.length_nil] at hl
      -- the encoded length of a positive size (`hpos`) is not 0
      omega
  · exact C03_format_valid H d.alg d.alg.name d.enc data


/-- non-vacuity: a concrete SHA-1 value in base32, read back under a base16 default -/
example : newDigest (bs "sha1:" ++ b32Enc (List.replicate 20 7)) .b16 = some ⟨.sha1, bs "sha1", b32Enc (List.replicate 20 7), .b32⟩ := by decide +kernel

end Gowarc.Props.C03
