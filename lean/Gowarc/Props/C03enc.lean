/-
  C03, all three encodings: decoding inverts encoding for every byte string (base16 in C03.lean, base32 and base64
  here), so what `format` writes is accepted by `validate` and a different hash is rejected, whatever the encoding.
-/
import Gowarc.Props.C03
import Gowarc.Lemmas.Base32
import Gowarc.Lemmas.Base64
namespace Gowarc.Props.C03

/-- **base32**: DecodeString (EncodeToString b) = b, every b -/
theorem C03_b32_roundtrip (b : Bytes) : b32Dec (b32Enc b) = some b := by
  rw [b32Dec, b32Enc_no_nl]; exact b32DecLoop_enc b _ (Nat.lt_succ_self _)

/-- **base64**: DecodeString (EncodeToString b) = b, every b -/
theorem C03_b64_roundtrip (b : Bytes) : b64Dec (b64Enc b) = some b := b64DecLoop_enc b _ (Nat.lt_succ_self _)

/-- every encoding digest.go knows -/
theorem C03_encode_decode (e : Enc) (b : Bytes) : e.decode (e.encode b) = some b := by
  cases e with
  | unknown => rfl
  | b16 => exact hex_roundtrip b
  | b32 => exact C03_b32_roundtrip b
  | b64 => exact C03_b64_roundtrip b

variable (H : Alg → Bytes → Bytes)

/-- **completeness**: the value `format` produces is accepted by `validate`, in every encoding -/
theorem C03_format_valid (alg : Alg) (name : Bytes) (e : Enc) (data : Bytes) :
    (⟨alg, name, e.encode (H alg data), e⟩ : Digest).valid H data = true := by
  rw [validate_iff]; exact C03_encode_decode e _

/-- **soundness**: the well-formed encoding of any other hash value is rejected, in every encoding -/
theorem C03_wrong_digest_rejected (alg : Alg) (name : Bytes) (e : Enc) (data other : Bytes) (hne : H alg other ≠ H alg data) :
    (⟨alg, name, e.encode (H alg other), e⟩ : Digest).valid H data = false := by
  simp [Digest.valid, C03_encode_decode, hne]


/-- non-vacuity: test vectors of RFC 4648 without, with short and with long padding; a decode across a line break -/
example : b32Enc (bs "fooba") = bs "MZXW6YTB" ∧ b32Enc (bs "foob") = bs "MZXW6YQ=" ∧ b32Enc (bs "f") = bs "MY======"
    ∧ b64Enc (bs "fo") = bs "Zm8=" ∧ b64Enc (bs "f") = bs "Zg==" ∧ b64Dec (bs "Zm9v\nYmFy") = some (bs "foobar") := by decide +kernel

end Gowarc.Props.C03
