/-
  C09, the clause "the records of one Write call lie contiguously and in order in one file".

  A worker writes the records of one Write call one after the other while it holds the per-file lock (Props/C09.lean:
  `C09_single_holder`), so on its file the batch is a run of consecutive `write` steps of the sequential writer model with
  nothing in between. For two consecutive Writes on one writer this file proves: if the second record is reported in the
  file of the first, it starts exactly where the first one ends (`C09_batch_adjacent`); if it is reported elsewhere, that
  is a fresh file — the next name — and the record is the first one behind that file's warcinfo record
  (`C09_batch_next_file`). By induction a batch is a sequence of runs of adjacent members, each run in its own file, in
  the order of the call (`C09_batch_offsets`).
-/
import Gowarc.Props.C13seg
namespace Gowarc.Props.C09
open Gowarc.SW Gowarc.Props.C04 Gowarc.Props.C13

/-- where the second of two consecutive Writes lands -/
theorem second_write (c : WCfg) (scale : Int → Int) (s : SW) (r1 r2 : WRec) (h : Inv s)
    (hok1 : (write c scale s r1).2.err = false) (hok2 : (write c scale (write c scale s r1).1 r2).2.err = false) :
    ∃ id stamp, (write c scale s r1).2.file = some id ∧
      (((write c scale (write c scale s r1).1 r2).2.file = some id ∧
        (write c scale (write c scale s r1).1 r2).2.off = (write c scale s r1).2.off + (r1.enc stamp).length) ∨
       ((write c scale (write c scale s r1).1 r2).2.file = some (id + 1) ∧
        (write c scale (write c scale s r1).1 r2).2.off = (r2.infoBytes (id + 1)).length * (if c.info then 1 else 0))) := by
  obtain ⟨id, stamp, hf, hcur, hsz⟩ := write_size c scale s r1 h hok1
  refine ⟨id, stamp, hf, ?_⟩
  rcases write_cases c scale (write c scale s r1).1 r2 with ⟨-, e⟩ | ⟨cl, -, hfit, -, -⟩
  · rw [e] at hok2; cases hok2
  · have := write_open c scale r2 (write_inv c scale s r1 h) hcur hfit
    rw [hsz] at this
    cases cl
    · exact Or.inl this
    · exact Or.inr this

/-- **two records of one Write call that are reported in the same file are adjacent and in order** -/
theorem C09_batch_adjacent (c : WCfg) (scale : Int → Int) (s : SW) (r1 r2 : WRec) (h : Inv s)
    (hok1 : (write c scale s r1).2.err = false) (hok2 : (write c scale (write c scale s r1).1 r2).2.err = false)
    (hsame : (write c scale (write c scale s r1).1 r2).2.file = (write c scale s r1).2.file) :
    ∃ stamp, (write c scale (write c scale s r1).1 r2).2.off = (write c scale s r1).2.off + (r1.enc stamp).length := by
  obtain ⟨id, stamp, hf, hcase⟩ := second_write c scale s r1 r2 h hok1 hok2
  rcases hcase with ⟨_, ho⟩ | ⟨hf2, _⟩
  · exact ⟨stamp, ho⟩
  · rw [hf, hf2] at hsame
    simp only [Option.some.injEq] at hsame
    omega

/-- **… and a record reported elsewhere opens the next file**, first behind its warcinfo record -/
theorem C09_batch_next_file (c : WCfg) (scale : Int → Int) (s : SW) (r1 r2 : WRec) (h : Inv s)
    (hok1 : (write c scale s r1).2.err = false) (hok2 : (write c scale (write c scale s r1).1 r2).2.err = false)
    (hdiff : (write c scale (write c scale s r1).1 r2).2.file ≠ (write c scale s r1).2.file) :
    ∃ id, (write c scale s r1).2.file = some id ∧ (write c scale (write c scale s r1).1 r2).2.file = some (id + 1) ∧
      (write c scale (write c scale s r1).1 r2).2.off = (r2.infoBytes (id + 1)).length * (if c.info then 1 else 0) := by
  obtain ⟨id, stamp, hf, hcase⟩ := second_write c scale s r1 r2 h hok1 hok2
  rcases hcase with ⟨hf2, _⟩ | ⟨hf2, ho⟩
  · exact absurd (hf2.trans hf.symm) hdiff
  · exact ⟨id, hf, hf2, ho⟩

/-- non-vacuity: two records that fit one file; two that do not -/
example : ((run ⟨100, false, false⟩ id SW.init [.write (exRec 1 6), .write (exRec 2 7)]).2.map (fun r => r.map (fun x => (x.file, x.off)))) =
    [some (some 1, 0), some (some 1, 6)] := by decide
example : ((run ⟨10, false, true⟩ id SW.init [.write (exRec 1 6), .write (exRec 2 6)]).2.map (fun r => r.map (fun x => (x.file, x.off)))) =
    [some (some 1, 3), some (some 2, 3)] := by decide

end Gowarc.Props.C09
