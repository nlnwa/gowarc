/-
  C01, composition — reading back what the marshaler writes.

  For every non-empty list of clean header fields `fs` (Props/C19pos.lean), every block `B` whose length is the declared
  Content-Length, every continuation `tail`, WARC version 1.0 or 1.1, every policy setting with the repair options off:
  if Unmarshal, applied to `marshal ver fs B ++ tail`, returns a record, that record has EXACTLY the header fields `fs`
  and EXACTLY the block bytes `B`, it is found at offset 0, and the stream is left at `tail`. Whether validation accepts
  the record (findings, errors) is the business of C17/C03; what this theorem excludes is any alteration of what was
  written. No bound on the number of fields or the size or content of the block (the block may contain record
  delimiters, gzip magic, a nested record).
-/
import Gowarc.Props.C19pos
import Gowarc.Props.C01
import Gowarc.Lemmas.Inversion
namespace Gowarc.Props.C01
open Gowarc.Props.C19

variable (H : Alg → Bytes → Bytes)

/-- the version line and the header section are read back exactly: Unmarshal of a serialized record reduces to the
    validation of exactly the written fields, positioned exactly at the block -/
theorem unmarshal_serialized (o : Opts) (Ω : Oracles) (ver : String) (vid : Nat) (hver : (ver, vid) ∈ Gen.versions)
    (hfind : Gen.versions.find? (fun p => bs p.1 == bs ver) = some (ver, vid))
    (hnolf : LF ∉ bs ver) (htrim : trim isWs (bs ver ++ crlf) = bs ver)
    (fs : Fields) (hne : fs ≠ []) (hclean : ∀ nv ∈ fs, CleanField nv) (body : Bytes) (fault : Bool := false) :
    unmarshal H o Ω ⟨bs "WARC/" ++ bs ver ++ crlf ++ Fields.write fs ++ crlf ++ body, fault⟩ =
      (match unmarshalTail H o Ω (bs ver) vid fs ⟨body, fault⟩ ⟨[], []⟩ with
       | (.ok (r, rest), st) => ⟨r, 0, st.fnd, none, rest⟩
       | (.error t, st) => ⟨none, 0, st.fnd, some t, []⟩) := by
  have hbody : unmarshalBody H o Ω ⟨Fields.write fs ++ crlf ++ body, fault⟩ (bs ver ++ crlf) ⟨[], []⟩ =
      unmarshalTail H o Ω (bs ver) vid fs ⟨body, fault⟩ ⟨[], []⟩ := by
    have hv : versionOf o (bs ver) ⟨[], []⟩ = (.ok (bs ver, vid), ⟨[], []⟩) := by unfold versionOf; rw [hfind]; rfl
    unfold unmarshalBody
    simp only [← missingCR.eq_1, missingCR_crlf, condSite_false, M.bind_def, htrim, hv, C19_clean_roundtrip o.syn fs hne hclean body fault,
      unmarshalRest, M.addFindings_def, List.append_nil]
  rw [show bs "WARC/" ++ bs ver ++ crlf ++ Fields.write fs ++ crlf ++ body = bs "WARC/" ++ bs ver ++ crlf ++ (Fields.write fs ++ crlf ++ body) by
    simp only [List.append_assoc], unmarshal_after_version H o Ω (bs ver) _ fault hnolf, hbody]
  rfl

/-- **round trip, lossless part** -/
theorem C01_roundtrip (o : Opts) (Ω : Oracles) (hrep : RepairsOff o) (hwf : o.fixWarcFieldsBlockErrors = false)
    (ver : String) (vid : Nat) (hver : (ver, vid) ∈ Gen.versions)
    (hfind : Gen.versions.find? (fun p => bs p.1 == bs ver) = some (ver, vid))
    (hnolf : LF ∉ bs ver) (htrim : trim isWs (bs ver ++ crlf) = bs ver)
    (fs : Fields) (hne : fs ≠ []) (hclean : ∀ nv ∈ fs, CleanField nv)
    (B tail : Bytes) (hcl : contentLengthOf fs = (B.length : Int)) (r : Rec)
    (hrec : (unmarshal H o Ω ⟨bs "WARC/" ++ bs ver ++ crlf ++ Fields.write fs ++ crlf ++ (B ++ crlfcrlf ++ tail), false⟩).record = some r)
    (herr : (unmarshal H o Ω ⟨bs "WARC/" ++ bs ver ++ crlf ++ Fields.write fs ++ crlf ++ (B ++ crlfcrlf ++ tail), false⟩).err = none) :
    r.hdr = fs ∧ r.block.raw = B ∧ r.verTxt = bs ver ∧
    (unmarshal H o Ω ⟨bs "WARC/" ++ bs ver ++ crlf ++ Fields.write fs ++ crlf ++ (B ++ crlfcrlf ++ tail), false⟩).offset = 0 ∧
    (unmarshal H o Ω ⟨bs "WARC/" ++ bs ver ++ crlf ++ Fields.write fs ++ crlf ++ (B ++ crlfcrlf ++ tail), false⟩).rest = tail := by
  rw [unmarshal_serialized H o Ω ver vid hver hfind hnolf htrim fs hne hclean] at hrec herr ⊢
  cases ht : unmarshalTail H o Ω (bs ver) vid fs ⟨B ++ crlfcrlf ++ tail, false⟩ ⟨[], []⟩ with
  | mk res st =>
    cases res with
    | error t => rw [ht] at herr; cases herr
    | ok v =>
      obtain ⟨ro, rest⟩ := v
      rw [ht] at hrec
      simp only
      subst hrec
      obtain ⟨hh, hb⟩ := unmarshalTail_observes H hrep hwf ht
      obtain ⟨⟨rc, hrc, hvt, _⟩, hr, _⟩ := unmarshalTail_out H ht
      obtain ⟨f1, f2, f3⟩ := C01_framing B tail
      obtain ⟨hdb, hab⟩ := declaredBlock_of_length ⟨B ++ crlfcrlf ++ tail, false⟩ hcl
      simp only [trailerRest, hab, hdb, f1, f2, f3] at hr hb
      cases hrc
      exact ⟨hh, hb, hvt, trivial, hr⟩

/-- the two versions the marshaler can write satisfy the side conditions -/
example : ∀ p ∈ [("1.0", 1), ("1.1", 2)], p ∈ Gen.versions ∧ Gen.versions.find? (fun q => bs q.1 == bs p.1) = some p ∧
    LF ∉ bs p.1 ∧ trim isWs (bs p.1 ++ crlf) = bs p.1 := by decide

end Gowarc.Props.C01
