/-
  The regenerated tie for C09 / C10: the synchronisation skeleton extracted from /repo/warcfile.go on this run
  (Gen/SyncSkeleton.lean, written by /verif/go/extract) is the one the protocol model was built from.
-/
import Gowarc.Gen.SyncSkeleton
import Gowarc.Model.ProtoSkeleton
namespace Gowarc.Props.C10
theorem C10_skeleton : Gowarc.Gen.syncSkeleton = Gowarc.Proto.expectedSkeleton := rfl
end Gowarc.Props.C10
namespace Gowarc.Props.C09
theorem C09_skeleton : Gowarc.Gen.syncSkeleton = Gowarc.Proto.expectedSkeleton := Gowarc.Props.C10.C10_skeleton
end Gowarc.Props.C09
