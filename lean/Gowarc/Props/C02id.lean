import Gowarc.Model.RecordId
import Gowarc.Props.C03
/-!
# C02, record-id clause: ids the builder generates are well-formed bracketed URNs, and distinct random draws give distinct ids

Quantifier: every 16 bytes the random source can deliver. "Never repeat" is, in the model, injectivity of
random bytes ↦ header value on the 122 bits the stamping keeps; that the source itself does not repeat is the
assumption named in the trusted base (crypto/rand), and that no two builders are handed the SAME draw is what the
repeat oracle of kind `build`/`uuid` watches on the implementation (sequential and concurrent builders).
-/
namespace Gowarc.Props.C02
open Gowarc.RecordId Gowarc.Props.C03

theorem hexChar_isHexLower : ∀ n : UInt8, n < 16 → isHexLower (hexChar n) = true := by decide +kernel

/-- the digit function of `uuid` is the one of `hex.EncodeToString` -/
theorem hexHi_eq (b : UInt8) : hexHi b = hexChar (b >>> 4) := rfl
theorem hexLo_eq (b : UInt8) : hexLo b = hexChar (b &&& 15) := rfl

theorem hexHi_lower (b : UInt8) : isHexLower (hexHi b) = true := hexChar_isHexLower _ (Byte.hi_lt b)
theorem hexLo_lower (b : UInt8) : isHexLower (hexLo b) = true := hexChar_isHexLower _ (Byte.lo_lt b)

/-- the two digits determine the byte -/
theorem hex_pair_inj {a b : UInt8} (h1 : hexHi a = hexHi b) (h2 : hexLo a = hexLo b) : a = b := by
  simpa using hexEnc_inj (l1 := [a]) (l2 := [b]) (by simp [← hexHi_eq, ← hexLo_eq, h1, h2])

/-- the version digit of a generated id is `4`, the variant digit one of `8 9 a b` -/
theorem stamp_version_digit (b : UInt8) : hexHi (stampVersion b) = 52 := by revert b; decide +kernel
theorem stamp_variant_digit (b : UInt8) :
    hexHi (stampVariant b) = 56 ∨ hexHi (stampVariant b) = 57 ∨ hexHi (stampVariant b) = 97 ∨ hexHi (stampVariant b) = 98 := by
  revert b; decide +kernel

/-- **Shape.** For every 16 bytes of randomness the WARC-Record-ID the builder stores is
    `<urn:uuid:` 8-4-4-4-12 `>` with the digits of the stamped bytes (all lower-case hex by `hexHi_lower`/`hexLo_lower`,
    version digit `4`, variant digit in `8 9 a b`). -/
theorem C02_id_shape (b0 b1 b2 b3 b4 b5 b6 b7 b8 b9 b10 b11 b12 b13 b14 b15 : UInt8) :
    recordIdField [b0, b1, b2, b3, b4, b5, b6, b7, b8, b9, b10, b11, b12, b13, b14, b15] =
      some ([60, 117, 114, 110, 58, 117, 117, 105, 100, 58,
        hexHi b0, hexLo b0, hexHi b1, hexLo b1, hexHi b2, hexLo b2, hexHi b3, hexLo b3, 45,
        hexHi b4, hexLo b4, hexHi b5, hexLo b5, 45,
        52, hexLo (stampVersion b6), hexHi b7, hexLo b7, 45,
        hexHi (stampVariant b8), hexLo (stampVariant b8), hexHi b9, hexLo b9, 45,
        hexHi b10, hexLo b10, hexHi b11, hexLo b11, hexHi b12, hexLo b12, hexHi b13, hexLo b13,
        hexHi b14, hexLo b14, hexHi b15, hexLo b15, 62]) := by
  -- in the statement: 60 117 114 110 58 117 117 105 100 58 spell `<urn:uuid:`, 45 is `-`, 52 is `4`, 62 is `>`.
  -- SetId (`idValue`) brackets the urn because its first byte is `u`, not `<`, and its last is a hex digit, not `>`;
  -- the rest is unfolding
  have hne : hexLo b15 ≠ 62 := fun h => absurd (h ▸ hexLo_lower b15) (by decide)
  simp [recordIdField, defaultId, stamp, urn, Fields.idValue, stamp_version_digit, hne]

/-- **Ids never repeat unless the random draws coincide** (on the 122 bits that survive the stamping):
    equal header values come from equal stamped uuids. -/
theorem C02_id_injective (a0 a1 a2 a3 a4 a5 a6 a7 a8 a9 a10 a11 a12 a13 a14 a15
    b0 b1 b2 b3 b4 b5 b6 b7 b8 b9 b10 b11 b12 b13 b14 b15 : UInt8)
    (h : recordIdField [a0, a1, a2, a3, a4, a5, a6, a7, a8, a9, a10, a11, a12, a13, a14, a15] =
         recordIdField [b0, b1, b2, b3, b4, b5, b6, b7, b8, b9, b10, b11, b12, b13, b14, b15]) :
    stamp [a0, a1, a2, a3, a4, a5, a6, a7, a8, a9, a10, a11, a12, a13, a14, a15] =
    stamp [b0, b1, b2, b3, b4, b5, b6, b7, b8, b9, b10, b11, b12, b13, b14, b15] := by
  rw [C02_id_shape, C02_id_shape] at h
  -- the id text is, dashes apart, the base16 of the stamped bytes
  exact congrArg some (hexEnc_inj (by simpa [← hexHi_eq, ← hexLo_eq, stamp_version_digit] using h))

/-- The slices of one pool refill are 16 bytes each and, put together, are the refill: no byte of the pool is handed
    to two builders and none is skipped. -/
theorem C02_pool_slices (pool : Bytes) (h : 32 ≤ pool.length) (h16 : pool.length % 16 = 0) :
    (∀ d ∈ draws pool, d.length = 16) ∧ (draws pool).flatten = pool := by
  have hlt : ¬ pool.length < 32 := by omega
  constructor
  · intro d hd
    simp only [draws, hlt, if_false, List.mem_map, List.mem_range] at hd
    obtain ⟨k, hk, rfl⟩ := hd
    simp only [List.length_take, List.length_drop]
    omega
  · simp only [draws, hlt, if_false]
    have key : ∀ n (l : Bytes), l.length = 16 * n →
        ((List.range n).map (fun k => (l.drop (16 * k)).take 16)).flatten = l := by
      intro n
      induction n with
      | zero => intro l hl; simp at hl; simp [hl]
      | succ n ih =>
        intro l hl
        -- peel the first chunk: `range (n+1)` is `0 :: (range n).map succ`, and chunk `k+1` of `l` is chunk `k` of `l.drop 16`
        have := ih (l.drop 16) (by simp; omega)
        simp only [List.drop_drop] at this
        simp [List.range_succ_eq_map, Function.comp_def, Nat.mul_succ, Nat.add_comm, this]
    exact key (pool.length / 16) pool (by omega)

/-- non-vacuity: a concrete draw and the id it gives -/
example : recordIdField [0, 1, 2, 3, 4, 5, 6, 7, 8, 9, 10, 11, 12, 13, 14, 255] =
    some [60, 117, 114, 110, 58, 117, 117, 105, 100, 58, 48, 48, 48, 49, 48, 50, 48, 51, 45, 48, 52, 48, 53, 45, 52, 54, 48, 55, 45, 56, 56, 48, 57, 45, 48, 97, 48, 98, 48, 99, 48, 100, 48, 101, 102, 102, 62] := by decide +kernel   -- "<urn:uuid:00010203-0405-4607-8809-0a0b0c0d0eff>"

end Gowarc.Props.C02
