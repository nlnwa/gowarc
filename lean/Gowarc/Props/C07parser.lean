/-
  C07 for the header parser: the FIELDS it returns, and the point where it stops, do not depend on the syntax policy.
  Any two policies that both accept a header section return the same fields (names, values, order) and leave the same
  stream behind; only the findings differ.
-/
import Gowarc.Lemmas.ParserMono
namespace Gowarc.Props.C07

/-- **the parsed header does not depend on the syntax policy** -/
theorem C07_parser_policy_independent (p q : Pol) (s : Stream) (fs fs' : Fields) (f f' : List Tag) (s' s'' : Stream)
    (hp : parseFields p s = .ok fs f s') (hq : parseFields q s = .ok fs' f' s'') : fs = fs' ∧ s' = s'' := by
  rcases p.le_total q with h | h
  · obtain ⟨g, hg, _⟩ := parseFields_le h hq
    rw [hp] at hg
    simp only [ParseRes.ok.injEq] at hg
    exact ⟨hg.1, hg.2.2⟩
  · obtain ⟨g, hg, _⟩ := parseFields_le h hp
    rw [hq] at hg
    simp only [ParseRes.ok.injEq] at hg
    exact ⟨hg.1.symm, hg.2.2.symm⟩

/-- non-vacuous: one field line with a bare LF ending is accepted under ignore and under warn (with a finding) -/
example : ∃ fs f f' s', parseFields .ignore ⟨bs "a: b\n\r\n", false⟩ = .ok fs f s' ∧ parseFields .warn ⟨bs "a: b\n\r\n", false⟩ = .ok fs f' s' ∧ f ≠ f' := by
  exact ⟨[(bs "A", bs "b")], [], [.synMissingCR], ⟨[], false⟩, by decide +kernel⟩

end Gowarc.Props.C07
