/-
  C02 — Built records carry truthful Content-Length, digests and record ids.

  Model: `Gowarc.build` (Model/Record.lean). Feeding manner and spill threshold are invisible in the model because the content
  buffer is a plain byte string by C14 (`Props.C14.C14_refines`); the correspondence (kind `build`) re-runs every case with other
  feeding manners and thresholds on the implementation and compares. The oracle recomputes length and digests from the
  serialized bytes with Go's crypto packages.
-/
import Gowarc.Lemmas.StreamLemmas
import Gowarc.Lemmas.Inversion
import Gowarc.Props.C03
import Gowarc.Props.C18
namespace Gowarc.Props.C02

variable (H : Alg → Bytes → Bytes)

/-- the digest the builder starts from when the caller declared none is the configured algorithm and encoding -/
theorem C02_default_digest (o : Opts) (hdr : Fields) (field : Bytes) (fnd : List Tag) (hno : hdr.has field = false) :
    digestFromField o field ⟨hdr, fnd⟩ =
      (match newDigest o.defaultAlg o.defaultEnc with
       | some d => (.ok d, ⟨hdr, fnd⟩)
       | none => (.error .digestAlg, ⟨hdr, fnd⟩)) := by
  rw [digestFromField_eq, digestOfField_absent hno]
  rfl

/-- what gets written into a missing digest field is `name:encode(H alg data)` for exactly the bytes given -/
theorem C02_added_digest (o : Opts) (field : Bytes) (tag : Tag) (d : Digest) (data : Bytes) (st : St)
    (hempty : d.hash = []) (hadd : o.addMissingDigest = true) :
    (checkDigest H o field tag d data st).2.hdr = st.hdr.set field (d.name ++ [COLON] ++ d.enc.encode (H d.alg data)) := by
  rw [C03.checkDigest_adds H o field tag d data st hempty hadd]; rfl

/-- HTTP blocks: the bytes fed to the block digest are head ++ payload = the content, the payload digest sees exactly the
    bytes after the protocol header (nothing lost, nothing counted twice at the split) -/
theorem C02_http_split (content : Bytes) :
    (headerBytes content).1 ++ (headerBytes content).2.1 = content := headerBytes_append content

/-- after `Set`, the header tells what was set (Build and ValidateDigest write Content-Length and both digests with `Set`) -/
theorem C02_set_get (h : Fields) (n v : Bytes) : (h.set n v).getAll n = [v] := C18.C18_set_one h n v

end Gowarc.Props.C02
