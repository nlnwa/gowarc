/-
  C09 — Concurrent writing never loses, duplicates, tears or misplaces records.

  Protocol level (this file): over the model of C10 (`Proto`), for any number of callers and workers and every
  interleaving: a job is written by exactly one worker, exactly once (`C09_exactly_once`); a Write that returned
  responses had its job written (`C09_responded_written`); a Write that returned nil has written nothing and never will
  (`C09_nil_nothing`).
  File level: each worker is a sequential writer (C04, C13: offsets, whole records, one file per record), the records of
  one job are written back to back by one worker (`Step.kWork` is the loop over the job's records under the worker's own
  file lock).
  Tie: the regenerated synchronisation skeleton of warcfile.go (Gen/SyncSkeleton.lean) must equal the skeleton this model
  was written from (`C09_skeleton` / `C10_skeleton`); the stress harness (kind `conc`) runs real goroutines with a gating
  marshaler under seeded schedules and judges every clause of the property on the files and responses.
-/
import Gowarc.Props.C10
namespace Gowarc.Props.C09
open Gowarc.Proto Gowarc.Props.C10

/-- a job is named by its caller and its `seq` (see `LogInv`) -/
def sameJob (a b : LogEntry) : Prop := a.caller = b.caller ∧ a.seq = b.seq

/-- A job is named by its caller and `seq`, the length of the caller's `rest` when it was sent; a call that has returned
    has shortened `rest`, so `seq > rest.length` says "a past call" and `seq = rest.length` "the call in progress".
    `entries`: a log entry belongs to a past call, or to the call in progress, and then its worker is about to reply
    (`k2`); `replying`: a worker about to reply has logged the call in progress; `results`: a result belongs to a past
    call, which is in the log if it responded and is not if it returned nil. -/
structure LogInv (n k : Nat) (s : St) : Prop where
  distinct : s.log.Pairwise (fun a b => ¬ sameJob a b)
  entries : ∀ e, e ∈ s.log → e.caller < n ∧ e.worker < k ∧
      (e.seq > (s.callers e.caller).rest.length ∨ (e.seq = (s.callers e.caller).rest.length ∧ s.workers e.worker = .k2 e.caller))
  replying : ∀ i c, i < k → s.workers i = .k2 c → ∃ e, e ∈ s.log ∧ e.worker = i ∧ e.caller = c ∧ e.seq = (s.callers c).rest.length
  results : ∀ c, c < n → ∀ r, r ∈ s.results c → r.seq > (s.callers c).rest.length ∧
      (r.responded = true → ∃ e, e ∈ s.log ∧ e.caller = c ∧ e.seq = r.seq) ∧
      (r.responded = false → ∀ e, e ∈ s.log → ¬ (e.caller = c ∧ e.seq = r.seq))

theorem loginv_init (n k : Nat) (progs : Nat → List COp) : LogInv n k (init progs) := by
  constructor <;> simp [init]

variable {n k : Nat} {s s' : St}

/-- `LogInv` reads the state only through the lengths of the programs, which workers are replying, the log and the results -/
theorem LogInv.congr (h : LogInv n k s) (hr : ∀ c, (s'.callers c).rest.length = (s.callers c).rest.length)
    (hk : ∀ i c, (s'.workers i = .k2 c) = (s.workers i = .k2 c)) (hl : s'.log = s.log) (hres : s'.results = s.results) :
    LogInv n k s' := by
  cases h
  constructor <;> simp only [hr, hk, hl, hres] <;> assumption

/-- A caller that is not waiting for a reply ends a call, possibly with a nil result: whatever the log and the results say
    of that call is about a past call from now on. -/
theorem LogInv.drop {c : Nat} {v : Caller} (h : LogInv n k s) (hi : Inv n k s) (hpc : (s.callers c).pc ≠ .w2)
    (hlen : v.rest.length < (s.callers c).rest.length) (hcs : s'.callers = upd s.callers c v) (hw : s'.workers = s.workers)
    (hl : s'.log = s.log)
    (hres : s'.results = s.results ∨ s'.results = upd s.results c (s.results c ++ [⟨(s.callers c).rest.length, false⟩])) :
    LogInv n k s' := by
  have hnw : ∀ i, i < k → s.workers i ≠ .k2 c := fun i hi' hw => hpc (hi.tok.wheld hi' (.inr hw)).2
  refine ⟨?_, ?_, ?_, ?_⟩ <;> simp only [hcs, hw, hl, upd]
  · exact h.distinct
  · -- `rest` has only got shorter
    have := h.entries; grind
  · -- whoever is replying replies to another caller (`hnw`), whose record has not changed
    have := h.replying; grind
  · have := h.results
    rcases hres with hres | hres <;> simp only [hres, upd]
    · -- the results of c stay past, those of other callers are untouched (split: same caller or not)
      grind
    · -- moreover the new nil result is for `seq = rest.length`, and by `entries` and `hnw` no log entry of c has that `seq`
      have := h.entries; grind

/-- Nine steps are invisible to `LogInv`, four are a `drop`; `kWork` writes the log entry, `kReply` answers it. -/
theorem step_loginv (hi : Inv n k s) (h : LogInv n k s) (hs : Step n k s s') : LogInv n k s' := by
  cases hs with
  | wStart | wSend | cStartClosed | cSignal0 | cSignal1 =>
    exact h.congr (upd_congr (fun x : Caller => x.rest.length) (by simp [*])) (fun _ _ => rfl) rfl rfl
  | dForward | dLast | kExit | kClose =>
    exact h.congr (fun _ => rfl) (fun i' c' => upd_congr (fun w : WPc => w = .k2 c') (by simp [*]) i') rfl rfl
  | cDone | rotate => exact h.drop hi (by simp [*]) (by simp [*]) rfl rfl rfl (.inl rfl)
  | wStartClosed | wGiveUp => exact h.drop hi (by simp [*]) (by simp [*]) rfl rfl rfl (.inr (by simp [*]))
  | kWork i c hik hw =>
    have hcn := (hi.tok.wheld hik (.inl hw)).1
    refine ⟨?_, ?_, ?_, ?_⟩ <;> simp only [upd, List.mem_append, List.mem_singleton]
    · -- an older entry for the same job would be current, so its worker would be replying to c while i still writes for c
      refine List.pairwise_append.2 ⟨h.distinct, List.pairwise_singleton _ _, ?_⟩
      have := h.entries; have := fun i' (hi' : i' < k) => hi.tok.uniq_ww (c := c) hi' hik
      simp only [List.mem_singleton, forall_eq, sameJob, wHolds] at *
      grind
    · -- an old entry that is current has its worker at `k2`, so that is not i (at `k1`); the new entry is current, i at `k2 c`
      have := h.entries; grind
    · intro i' c' hi' hk2
      by_cases hii : i' = i
      · obtain rfl : c = c' := by simpa [hii] using hk2
        exact ⟨⟨i, c, _⟩, .inr rfl, hii.symm, rfl, rfl⟩
      · obtain ⟨e, he, r⟩ := h.replying i' c' hi' (by simpa [hii] using hk2)
        exact ⟨e, .inl he, r⟩
    · -- the log only grew; a result is for a past call, the new entry for the call in progress (`seq = rest.length`)
      have := h.results; grind
  | kReply i c r hik hc hw hcc =>
    -- no other worker is replying to c
    have hother : ∀ i', i' < k → s.workers i' = .k2 c → i' = i := fun i' hi' h' => hi.tok.uniq_ww hi' hik (.inr h') (.inr hw)
    refine ⟨h.distinct, ?_, ?_, ?_⟩ <;> simp only [upd]
    · -- c's current entries become past; a current entry of another caller has its worker at `k2` for that caller: not i
      have := h.entries; grind
    · -- i is idle; any other worker at `k2` replies to another caller (`hother`), whose record is as it was
      have := h.replying; grind
    · -- the new result has responded, and its job is the entry that `replying` gives for i; older results stay past
      have := h.replying i c hik hw; have := h.results; grind

theorem reach_loginv (n k : Nat) (progs : Nat → List COp) (s : St) (h : Reach n k progs s) : LogInv n k s := by
  induction h with
  | init => exact loginv_init n k progs
  | step s s' hr hs ih => exact step_loginv (reach_inv hr) ih hs

/-- **exactly once**: in every reachable state no job occurs twice in the log of what the workers have written — under
    every interleaving of any number of callers, the dispatcher and any number of workers -/
theorem C09_exactly_once (n k : Nat) (progs : Nat → List COp) (s : St) (hr : Reach n k progs s) :
    s.log.Pairwise (fun a b => ¬ (a.caller = b.caller ∧ a.seq = b.seq)) :=
  (reach_loginv n k progs s hr).distinct

/-- **a Write that returned responses had its job written** (by exactly one worker, by the theorem above) -/
theorem C09_responded_written (n k : Nat) (progs : Nat → List COp) (s : St) (hr : Reach n k progs s) (c : Nat) (hc : c < n)
    (r : Result) (hres : r ∈ s.results c) (hresp : r.responded = true) : ∃ e, e ∈ s.log ∧ e.caller = c ∧ e.seq = r.seq :=
  ((reach_loginv n k progs s hr).results c hc r hres).2.1 hresp

/-- **a Write that returned no responses has written nothing** — in this state and, because the statement holds in
    every reachable state and results are never retracted, in every later one -/
theorem C09_nil_nothing (n k : Nat) (progs : Nat → List COp) (s : St) (hr : Reach n k progs s) (c : Nat) (hc : c < n)
    (r : Result) (hres : r ∈ s.results c) (hresp : r.responded = false) : ∀ e, e ∈ s.log → ¬ (e.caller = c ∧ e.seq = r.seq) :=
  ((reach_loginv n k progs s hr).results c hc r hres).2.2 hresp

/-- results are never retracted -/
theorem results_mono (n k : Nat) (s s' : St) (hs : Step n k s s') (c : Nat) (r : Result) (h : r ∈ s.results c) : r ∈ s'.results c := by
  cases hs with
  | wStartClosed | wGiveUp | kReply => simp only [upd]; split <;> simp_all
  | _ => exact h

/-- every log entry names a real caller and a real worker, and a job is in the hands of at most one goroutine at a time
    (the linear-token invariant behind exactly-once) -/
theorem C09_single_holder (n k : Nat) (progs : Nat → List COp) (s : St) (hr : Reach n k progs s) (c : Nat) :
    (dHolds s c → ∀ i, i < k → ¬ wHolds s i c) ∧ (∀ i i', i < k → i' < k → wHolds s i c → wHolds s i' c → i = i') :=
  ⟨fun hd _ hi' => (reach_inv hr).tok.uniq_dw hi' hd, fun _ _ hi' hi'' => (reach_inv hr).tok.uniq_ww hi' hi''⟩

end Gowarc.Props.C09
