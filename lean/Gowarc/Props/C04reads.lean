/-
  C04 ∘ C01: the offset a Write reports is a position from which a fresh reader returns that record.

  `C04_offset` / `C04_offset_stable` say that after a successful Write the member's bytes lie in the reported file at the
  reported offset and stay there whatever is written, rotated or closed later. `C01_accepts` says that the marshalled
  bytes of a record the strict builder produced are read back as that record by every reader, whatever follows them.
  Together: for an uncompressed writer, every reader opened at the reported offset of the reported file returns exactly
  that record, clean, and is left at the byte behind it — for every later history of the writer (records failing to
  marshal included).
-/
import Gowarc.Props.C04
import Gowarc.Props.C06built
namespace Gowarc.Props.C04
open Gowarc.SW Gowarc.Props.C06

variable (H : Alg → Bytes → Bytes)

/-- a reader positioned at `off` in a file that holds member `b` there returns what reading `b` returns -/
theorem reads_at {o : Opts} {Ω : Oracles} {s : SW} {id off : Nat} {b : Bytes} {r : Rec}
    (hat : At s id off b) (hrb : ReadsBack H o Ω b r) (fault : Bool) :
    ∃ f ∈ s.files, f.id = id ∧ ∃ post, unmarshal H o Ω ⟨f.content.drop off, fault⟩ = ⟨some r, 0, [], none, post⟩ ∧
      f.content.length = off + b.length + post.length := by
  obtain ⟨f, hf, hid, pre, post, hc, hl⟩ := hat
  refine ⟨f, hf, hid, post, ?_, ?_⟩
  · rw [hc, ← hl, List.append_assoc, List.drop_left]
    exact hrb post fault
  · rw [hc, ← hl]; simp [Nat.add_assoc]

/-- **random access**: the record of a successful Write is returned by every reader opened at the reported offset of the
    reported file, after any later history of the writer -/
theorem C04_offset_reads_back (o : Opts) (Ω : Oracles) (c : WCfg) (scale : Int → Int) (s : SW) (r : WRec) (later : List WOp)
    (h : Inv s) (hok : (write c scale s r).2.err = false) (rec : Option Nat → Rec)
    (hrb : ∀ stamp, ReadsBack H o Ω (r.enc stamp) (rec stamp)) (fault : Bool) :
    ∃ id stamp, (write c scale s r).2.file = some id ∧
      ∃ f ∈ (run c scale (write c scale s r).1 later).1.files, f.id = id ∧
        ∃ post, unmarshal H o Ω ⟨f.content.drop (write c scale s r).2.off, fault⟩ = ⟨some (rec stamp), 0, [], none, post⟩ := by
  obtain ⟨id, stamp, hf, hat⟩ := C04_offset_stable c scale s r later h hok
  obtain ⟨f, hfm, hid, post, hu, _⟩ := reads_at H hat (hrb stamp) fault
  exact ⟨id, stamp, hf, f, hfm, hid, post, hu⟩

end Gowarc.Props.C04
