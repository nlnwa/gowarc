/-
  C13, "names … carry the compression suffix exactly when compressed and the in-progress suffix exactly while open":
  how the name on disk is put together in createFile and taken apart again in close (skeleton: Model/WriterSkeleton.lean).

  The final name is the name on disk with the in-progress suffix trimmed off its END. Whatever the generated name contains
  — also the text of the in-progress suffix itself, as in a host name `crawler1.openstack.internal` — the final name is
  exactly generated name ++ compression suffix (`C13_final_name`). Cutting at the FIRST occurrence instead (seed C12-i) is
  refuted by a two-line example.
-/
import Gowarc.Model.Writer
namespace Gowarc.SW

/-- strings.TrimSuffix -/
def trimSuffix (l sfx : Bytes) : Bytes :=
  if sfx.length ≤ l.length ∧ l.drop (l.length - sfx.length) = sfx then l.take (l.length - sfx.length) else l

/-- createFile: generated name, compression suffix when compressing, in-progress suffix while open -/
def onDiskName (gen comprSfx openSfx : Bytes) (compress isOpen : Bool) : Bytes :=
  gen ++ (if compress then comprSfx else []) ++ (if isOpen then openSfx else [])

end Gowarc.SW

namespace Gowarc.Props.C13
open Gowarc.SW

theorem trimSuffix_append (a sfx : Bytes) : trimSuffix (a ++ sfx) sfx = a := by
  simp [trimSuffix]

/-- **the final name is the generated name plus the compression suffix**, for every generated name, every pair of
    suffixes and both compression settings: renaming at close undoes exactly what createFile appended -/
theorem C13_final_name (gen comprSfx openSfx : Bytes) (compress : Bool) :
    trimSuffix (onDiskName gen comprSfx openSfx compress true) openSfx = onDiskName gen comprSfx openSfx compress false := by
  unfold onDiskName
  simp only [↓reduceIte, Bool.false_eq_true, List.append_nil]
  exact trimSuffix_append _ _

/-- … and it carries the compression suffix exactly when compressing -/
theorem C13_final_suffix (gen comprSfx openSfx : Bytes) :
    onDiskName gen comprSfx openSfx true false = gen ++ comprSfx ∧ onDiskName gen comprSfx openSfx false false = gen := by
  unfold onDiskName; simp

/-- a final name and the in-progress name of the same file differ whenever the in-progress suffix is not empty: a reader
    of the directory can tell them apart by length -/
theorem C13_open_differs (gen comprSfx openSfx : Bytes) (compress : Bool) (h : openSfx ≠ []) :
    onDiskName gen comprSfx openSfx compress true ≠ onDiskName gen comprSfx openSfx compress false := by
  unfold onDiskName
  simp only [↓reduceIte, Bool.false_eq_true, List.append_nil]
  intro e
  have := congrArg List.length e
  simp only [List.length_append] at this
  have hp : openSfx.length > 0 := List.length_pos_iff.mpr h
  omega

/-- cutting at the FIRST occurrence of the suffix text is wrong for a generated name that contains it: in
    `w.opendata.open` that occurrence is at index 1, so the cut would leave `w` -/
example : trimSuffix (onDiskName (bs "w.opendata") [] (bs ".open") false true) (bs ".open") = bs "w.opendata" ∧
    (bs "w.opendata.open").take 1 ≠ bs "w.opendata" := by decide +kernel

end Gowarc.Props.C13
