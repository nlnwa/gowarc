/-
  C12 ↔ C04: the effect log of Model/Crash.lean is what the sequential writer of Model/Writer.lean does, step by step.

  `stepE` is `SW.step` instrumented with the file-system effects each step issues, in program order (close + rename of
  the file that no longer fits, create + warcinfo member of a new file, the record's member, the acknowledgement with
  the offset the response carries). `C12_log_is_run`: for every operation sequence from the initial state, the effects
  issued along the run are exactly `effectLog` of the files of the final state — so the theorems of Props/C12.lean, which
  are stated over `effectLog`, are theorems about every run of the writer model, and the acknowledged offsets in the log
  are the offsets of the writer's responses (C04).
-/
import Gowarc.Props.C12
import Gowarc.Props.C04
namespace Gowarc.Props.C12
open Gowarc.SW Gowarc.Props.C04

/-- the hypothesis of the theorems is the invariant of every reachable writer state: a file is open only while it is
    the current, i.e. newest, one -/
theorem reachable_closed (s : SW) (h : Gowarc.Props.C04.Inv s) : ∀ f ∈ s.files.dropLast, f.isOpen = false := by
  intro f hf
  cases hc : s.cur with
  | none => exact h.closed hc f (List.dropLast_subset _ hf)
  | some id =>
    obtain ⟨init, l, hfs, -, -, hcl, -, -⟩ := h.decomp hc
    rw [hfs, List.dropLast_concat] at hf
    exact hcl f hf

theorem membersEffects_append (flush : Bool) (off : Nat) (a b : List Member) :
    membersEffects flush off (a ++ b) = membersEffects flush off a ++ membersEffects flush (off + (flat a).length) b := by
  induction a generalizing off with
  | nil => simp [membersEffects, flat]
  | cons m rest ih =>
    simp only [List.cons_append, membersEffects, ih, List.append_assoc, flat_cons, List.length_append]
    rw [Nat.add_assoc]

def closeE (s : SW) : List Eff := match s.cur with | some _ => [Eff.close, Eff.rename] | none => []

/-- effects of creating a file (with its warcinfo member, if a generator is configured) -/
def createE (c : WCfg) (flush : Bool) (s : SW) (ib : Nat → Bytes) : List Eff :=
  [Eff.create (s.serial + 1)] ++ (if c.info then memberEffects flush 0 ⟨0, ib (s.serial + 1), none⟩ else [])

def writeE (c : WCfg) (scale : Int → Int) (flush : Bool) (s : SW) (r : WRec) : List Eff :=
  match fitClose c scale s r.decl with
  | none => []
  | some cl =>
    let s1 := if cl then close s else s
    (if cl then closeE s else []) ++
    (if s1.cur.isNone then createE c flush s1 r.infoBytes else []) ++
    (match (ready c s cl r.infoBytes).cur with
     | none => []
     | some _ => memberEffects flush (ready c s cl r.infoBytes).curSize ⟨r.tok, r.enc (ready c s cl r.infoBytes).infoOf, (ready c s cl r.infoBytes).infoOf⟩)

/-- a record that fails to marshal: the fit test and the file creation leave their effects; the bytes the marshaler wrote
    before failing are taken back by the truncation and are not part of the log of what stays on disk -/
def failedE (c : WCfg) (scale : Int → Int) (flush : Bool) (s : SW) (r : WRec) : List Eff :=
  match fitClose c scale s r.decl with
  | none => []
  | some cl =>
    (if cl then closeE s else []) ++
    (if (if cl then close s else s).cur.isNone then createE c flush (if cl then close s else s) r.infoBytes else [])

/-- a segmented Write: the effects of the first segment, then those of the continuation written by the nested write().
    (The log acknowledges the first segment as soon as it is in the file, which is EARLIER than the caller's single
    response: the crash theorems then demand more than the property does, never less.) -/
def segE (c : WCfg) (scale : Int → Int) (flush : Bool) (s : SW) (r n : WRec) : List Eff :=
  if (write c scale s r).2.err then writeE c scale flush s r
  else match fitClose c scale (write c scale s r).1 n.decl with
    | none => failedE c scale flush s r
    | some _ => writeE c scale flush s r ++ writeE c scale flush (write c scale s r).1 n

def stepE (c : WCfg) (scale : Int → Int) (flush : Bool) (s : SW) : WOp → List Eff
  | .write r => writeE c scale flush s r
  | .rotate => closeE s
  | .failed r => failedE c scale flush s r
  | .seg r n => segE c scale flush s r n

def runE (c : WCfg) (scale : Int → Int) (flush : Bool) (s : SW) : List WOp → List Eff
  | [] => []
  | op :: rest => stepE c scale flush s op ++ runE c scale flush (step c scale s op).1 rest

theorem effectLog_append (flush : Bool) (a b : List WFile) : effectLog flush (a ++ b) = effectLog flush a ++ effectLog flush b := by
  simp [effectLog]

theorem effectLog_single (flush : Bool) (f : WFile) : effectLog flush [f] = fileEffects flush f := by simp [effectLog]

theorem close_log (flush : Bool) {s : SW} (h : Inv s) : effectLog flush (close s).files = effectLog flush s.files ++ closeE s := by
  cases hc : s.cur with
  | none => simp [close_idle hc, closeE, hc]
  | some id =>
    obtain ⟨init, l, hfs, rfl, hne, -, hop, -⟩ := h.decomp hc
    rw [close_snoc hc hfs hne, hfs]
    simp [effectLog_append, effectLog_single, fileEffects, closeE, hc, hop]

theorem create_log (c : WCfg) (flush : Bool) (s : SW) (ib : Nat → Bytes) :
    effectLog flush (createFile c s ib).files = effectLog flush s.files ++ createE c flush s ib := by
  rw [createFile_eq]
  unfold createE
  cases hi : c.info <;> simp [effectLog_append, effectLog_single, fileEffects, membersEffects, fresh_id, fresh_isOpen, fresh_members, hi]

theorem push_log (flush : Bool) {s : SW} {id : Nat} (m : Member) (h : Inv s) (hc : s.cur = some id) :
    effectLog flush (push s id m).files = effectLog flush s.files ++ memberEffects flush s.curSize m := by
  obtain ⟨init, l, hfs, rfl, hne, -, hop, hsz⟩ := h.decomp hc
  rw [push_snoc hfs hne, hfs, hsz]
  simp [effectLog_append, effectLog_single, fileEffects, hop, membersEffects_append, membersEffects, WFile.size, content_eq_flat]

theorem ready_log (c : WCfg) (flush : Bool) {s : SW} (cl : Bool) (ib : Nat → Bytes) (h : Inv s) :
    effectLog flush (ready c s cl ib).files = effectLog flush s.files ++ (if cl then closeE s else []) ++
      (if (if cl then close s else s).cur.isNone then createE c flush (if cl then close s else s) ib else []) := by
  unfold ready
  cases cl <;> simp only [Bool.false_eq_true, if_true, if_false] <;> split <;> simp [create_log, close_log flush h]

theorem write_log (c : WCfg) (scale : Int → Int) (flush : Bool) (s : SW) (r : WRec) (h : Inv s) :
    effectLog flush (write c scale s r).1.files = effectLog flush s.files ++ writeE c scale flush s r := by
  unfold writeE
  rcases write_cases c scale s r with ⟨hf, e⟩ | ⟨cl, id, hf, hid, e⟩ <;> rw [e, hf]
  · simp
  · simp only [hid]
    rw [push_log flush _ (ready_inv c s cl _ h) hid, ready_log c flush cl r.infoBytes h]
    simp only [List.append_assoc]

theorem failed_log (c : WCfg) (scale : Int → Int) (flush : Bool) (s : SW) (r : WRec) (h : Inv s) :
    effectLog flush (writeFailed c scale s r).1.files = effectLog flush s.files ++ failedE c scale flush s r := by
  unfold writeFailed failedE
  cases fitClose c scale s r.decl with
  | none => simp
  | some cl => exact (ready_log c flush cl r.infoBytes h).trans (List.append_assoc ..)

theorem step_log (c : WCfg) (scale : Int → Int) (flush : Bool) (s : SW) (op : WOp) (h : Inv s) :
    effectLog flush (step c scale s op).1.files = effectLog flush s.files ++ stepE c scale flush s op := by
  cases op with
  | write r => exact write_log c scale flush s r h
  | rotate => exact close_log flush h
  | failed r => exact failed_log c scale flush s r h
  | seg r n =>
    show effectLog flush (writeSeg c scale s r n).1.files = effectLog flush s.files ++ segE c scale flush s r n
    unfold writeSeg segE
    split
    · exact write_log c scale flush s r h
    · cases fitClose c scale (write c scale s r).1 n.decl with
      | none => exact failed_log c scale flush s r h
      | some cl =>
        show effectLog flush (write c scale (write c scale s r).1 n).1.files = _
        rw [write_log c scale flush _ n (write_inv c scale s r h), write_log c scale flush s r h, List.append_assoc]

/-- from any state of the writer: the files' log grows by exactly what the run issues -/
theorem run_log (c : WCfg) (scale : Int → Int) (flush : Bool) (ops : List WOp) (s : SW) (h : Inv s) :
    effectLog flush (run c scale s ops).1.files = effectLog flush s.files ++ runE c scale flush s ops := by
  induction ops generalizing s with
  | nil => simp [runE, run]
  | cons op rest ih => rw [run, ih _ (step_inv c scale s op h), step_log c scale flush s op h, List.append_assoc, runE]

/-- **the log is the run**: the effects issued step by step along any run of the writer are exactly the effect log of
    the files the run ends with -/
theorem C12_log_is_run (c : WCfg) (scale : Int → Int) (flush : Bool) (ops : List WOp) :
    runE c scale flush SW.init ops = effectLog flush (run c scale SW.init ops).1.files :=
  (run_log c scale flush ops SW.init inv_init).symm

/-- the acknowledgement a Write issues carries the offset of its response -/
theorem C12_ack_is_response (c : WCfg) (scale : Int → Int) (flush : Bool) (s : SW) (r : WRec) (htok : r.tok ≠ 0)
    (hok : (write c scale s r).2.err = false) :
    ∃ stamp, Eff.ack r.tok (write c scale s r).2.off (r.enc stamp) ∈ writeE c scale flush s r := by
  unfold writeE
  rcases write_cases c scale s r with ⟨-, e⟩ | ⟨cl, id, hf, hid, e⟩ <;> rw [e] at hok ⊢
  · cases hok
  · exact ⟨(ready c s cl r.infoBytes).infoOf, by simp [hf, hid, memberEffects, htok]⟩

end Gowarc.Props.C12
