/-
  C01 through gzip: one record per gzip member.

  The gzip codec is outside the model: `Ω.gz` is the decoder's verdict on the bytes from the start of a member to the end
  of the stream. The CODEC LAW assumed of it here is the one DESIGN section 3 records for the compressor/decompressor pair:
  for the member `g` that compressing `m` produced, followed by anything, the decoder yields exactly `m`, ends cleanly,
  and has consumed exactly `g` (`GzLaw`). Under that law, everything `C01_accepts` says about a plain serialized record
  carries over to the record inside its own gzip member: every reader returns it, no error, no finding, at offset 0,
  and is left at the first byte behind the member. (What the real klauspost/gzip does is supplied per case by the
  harness and compared; this theorem is about what gowarc does with it.)
-/
import Gowarc.Props.C06built
namespace Gowarc.Props.C01
open Gowarc.Props.C06

/-- the decoder's verdict for the member `g` of content `m`, whatever follows the member -/
def GzLaw (Ω : Oracles) (g m : Bytes) : Prop :=
  ∀ rest, Ω.gz (g ++ rest) = some (.inr (m, false, g.length))

variable (H : Alg → Bytes → Bytes)

/-- **a record in its own gzip member is read back like the plain record** -/
theorem readsBack_gzip (o : Opts) (Ω : Oracles) (x : Bytes) (r : Rec) (g : Bytes)
    (hplain : ReadsBack H o Ω (bs "WARC/" ++ x) r)
    (hmagic : g.take 2 = [0x1f, 0x8b]) (hg5 : 5 ≤ g.length) (hlaw : GzLaw Ω g (bs "WARC/" ++ x)) :
    ReadsBack H o Ω g r := by
  intro tail fault
  -- what the record reader makes of the member's content
  have hin : unmarshalAfterMagic H o Ω 0 [] ⟨x, false⟩ = ⟨some r, 0, [], none, []⟩ := by
    have := hplain [] false
    rw [List.append_nil, unmarshal_plain_start] at this
    exact this
  have htake : (g ++ tail).take 2 = [0x1f, 0x8b] := by rw [List.take_append_of_le_length (by omega)]; exact hmagic
  rw [unmarshal_at_magic H o Ω _ fault (by simp [isMagic, htake]) (by simp only [List.length_append]; omega),
    atMagic_member H htake (hlaw tail) (by simp [bs]), show (bs "WARC/" ++ x).drop 5 = x by simp [bs], hin]
  -- the member ended cleanly: the stream stands behind it
  simp [gzFinish]

end Gowarc.Props.C01
