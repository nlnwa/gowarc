/-
  C03, "… in base16/base32/base64 and in either letter case": a declared digest value written in the other letter case
  (upper-case base16, lower-case base32), and an algorithm name in upper case or with the hyphen (SHA-1, sha-256, …),
  is read by `newDigest` as the SAME digest object as the canonical spelling — so it validates exactly when the canonical
  spelling does. Base64 is case-sensitive by nature and has only its canonical spelling.
-/
import Gowarc.Props.C03detect
namespace Gowarc.Props.C03

/-- the spellings of an algorithm name digest.go accepts -/
def spellings : Alg → List Bytes
  | .md5 => [bs "md5", bs "MD5", bs "Md5"]
  | .sha1 => [bs "sha1", bs "SHA1", bs "sha-1", bs "SHA-1", bs "Sha-1"]
  | .sha256 => [bs "sha256", bs "SHA256", bs "sha-256", bs "SHA-256"]
  | .sha512 => [bs "sha512", bs "SHA512", bs "sha-512", bs "SHA-512"]

theorem spelling_facts : ∀ a : Alg, ∀ s ∈ spellings a, normalizeAlg s = a.name := by
  intro a; cases a <;> decide +kernel

theorem hexChar_up_lt128 : ∀ n : UInt8, n < 16 → toUpperB (hexChar n) < 128 :=
  fun n h => toUpperB_lt128 _ (hexChar_lt128 n h)
theorem b32Char_low_lt128 : ∀ n : UInt8, n < 32 → toLowerB (b32Char n) < 128 :=
  fun n h => toLowerB_lt128 _ (b32Char_lt128 n h)

/-- upper-case base16 has the length of what `format` writes, does not end in `=`, and is normalised back to it -/
theorem hex_upper (h : Bytes) : (upperAscii (hexEnc h)).length = (hexEnc h).length ∧
    (upperAscii (hexEnc h)).getLast? ≠ some 61 ∧ normHash .b16 (upperAscii (hexEnc h)) = hexEnc h := by
  refine ⟨List.length_map _, fun hl => ?_, by rw [normHash, lowerAscii_upperAscii, hexEnc_normal]⟩
  obtain ⟨c, hc, hcu⟩ := List.mem_map.mp (List.mem_of_getLast? hl)
  exact toUpperB_ne_pad c (hexEnc_all (P := (· ≠ 61)) hexChar_ne_pad h c hc) hcu

/-- lower-case base32 has the length of what `format` writes, ends in `=` when that does, and is normalised back to it -/
theorem b32_lower (h : Bytes) : (lowerAscii (b32Enc h)).length = (b32Enc h).length ∧
    ((b32Enc h).getLast? = some 61 → (lowerAscii (b32Enc h)).getLast? = some 61) ∧
    normHash .b32 (lowerAscii (b32Enc h)) = b32Enc h := by
  refine ⟨List.length_map _, fun hl => ?_, by rw [normHash, upperAscii_lowerAscii, b32Enc_normal]⟩
  rw [lowerAscii, List.getLast?_map, hl]; rfl

/-- either letter case of the value, under ANY spelling that `normalizeAlgorithmName` maps to the algorithm's name -/
theorem C03_any_spelling (alg : Alg) (sp : Bytes) (hn : normalizeAlg sp = alg.name) (hash : Bytes)
    (hlen : hash.length = alg.size) (dflt : Enc) :
    newDigest (sp ++ [COLON] ++ upperAscii (hexEnc hash)) dflt = some ⟨alg, alg.name, hexEnc hash, .b16⟩ ∧
    newDigest (sp ++ [COLON] ++ hexEnc hash) dflt = some ⟨alg, alg.name, hexEnc hash, .b16⟩ ∧
    newDigest (sp ++ [COLON] ++ lowerAscii (b32Enc hash)) dflt = some ⟨alg, alg.name, b32Enc hash, .b32⟩ ∧
    newDigest (sp ++ [COLON] ++ b32Enc hash) dflt = some ⟨alg, alg.name, b32Enc hash, .b32⟩ ∧
    newDigest (sp ++ [COLON] ++ b64Enc hash) dflt = some ⟨alg, alg.name, b64Enc hash, .b64⟩ := by
  -- the encoders' own letter case is `newDigest_encode`; the other case has the same length and the same last
  -- character as far as `detectEncoding` looks at it, and is normalised back
  have own := fun e he => newDigest_encode hn e he hlen dflt
  have l16 : (hexEnc hash).length = alg.size * 2 := by rw [hexEnc_length, hlen]
  have l32 : (b32Enc hash).length = b32EncodedLen alg.size := by rw [b32Enc_length, hlen]
  obtain ⟨ul, up, un⟩ := hex_upper hash
  obtain ⟨ll, lp, ln⟩ := b32_lower hash
  refine ⟨?_, own .b16 nofun, ?_, own .b32 nofun, own .b64 nofun⟩
  · rw [newDigest_spelled hn, detect_b16 (ul.trans l16) up, un]
  · rw [newDigest_spelled hn, detect_b32 (ll.trans l32) (fun h => lp (b32Enc_md5_pad hlen h)), ln]

/-- **either letter case, any accepted spelling of the algorithm**: the value is read as the canonical digest object -/
theorem C03_case_insensitive (alg : Alg) (sp : Bytes) (hsp : sp ∈ spellings alg) (hash : Bytes) (hlen : hash.length = alg.size) (dflt : Enc) :
    newDigest (sp ++ [COLON] ++ upperAscii (hexEnc hash)) dflt = some ⟨alg, alg.name, hexEnc hash, .b16⟩ ∧
    newDigest (sp ++ [COLON] ++ hexEnc hash) dflt = some ⟨alg, alg.name, hexEnc hash, .b16⟩ ∧
    newDigest (sp ++ [COLON] ++ lowerAscii (b32Enc hash)) dflt = some ⟨alg, alg.name, b32Enc hash, .b32⟩ ∧
    newDigest (sp ++ [COLON] ++ b32Enc hash) dflt = some ⟨alg, alg.name, b32Enc hash, .b32⟩ ∧
    newDigest (sp ++ [COLON] ++ b64Enc hash) dflt = some ⟨alg, alg.name, b64Enc hash, .b64⟩ :=
  C03_any_spelling alg sp (spelling_facts alg sp hsp) hash hlen dflt

/-- non-vacuity -/
example : newDigest (bs "SHA-1:" ++ upperAscii (hexEnc (List.replicate 20 0xab))) .b32 = some ⟨.sha1, bs "sha1", hexEnc (List.replicate 20 0xab), .b16⟩ := by decide +kernel

end Gowarc.Props.C03
