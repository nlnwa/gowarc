/-
  C05 — The parser is total: no panic, no hang, bounded memory.

  Every model function (Model/HeaderParser.lean, Model/Record.lean, Model/Mime.lean) is a total Lean function: recursion is
  structural on the input or on an explicit fuel argument, and there is no partial step (no `get!`, no `head!`): indexing uses
  `getD` only behind the same length guards as the Go code. What remains to be shown for loops that take fuel is that the
  fuel handed to them suffices (Props/C05total.lean for the header parser, Props/C05progress.lean for the reading loop) and
  that a successful call consumes input (`C05_progress`). Here: that the line reader, the HTTP head scan and the search
  for a record start lose and duplicate nothing.
  Tie: kinds `unmarshal`, `hdrparse` executed in isolated worker processes with a watchdog and an address-space cap; every
  case is re-run under four read-chunking styles.
-/
import Gowarc.Lemmas.StreamLemmas
namespace Gowarc.Props.C05

/-- the line reader returns every byte exactly once (line ++ remaining = input) -/
theorem C05_readline_partition (l : Bytes) : (readBytesNL l).1 ++ (readBytesNL l).2.1 = l := readBytesNL_append l

/-- … and consumes at least one byte of a non-empty input: loops built on it terminate -/
theorem C05_readline_progress (l : Bytes) (h : l ≠ []) : (readBytesNL l).2.1.length < l.length := readBytesNL_progress l h

/-- the HTTP head scan hands out every content byte exactly once -/
theorem C05_http_split (content : Bytes) : (headerBytes content).1 ++ (headerBytes content).2.1 = content :=
  headerBytes_append content

/-- the search for a record start only ever stops at a position that starts with a magic, inside the input -/
theorem C05_junk (s : Bytes) (off : Nat) (at_ : Bytes) (h : skipJunk (s.length + 1) s 0 = .inr (off, at_)) :
    at_ = s.drop off ∧ isMagic at_ = true := by
  have := skipJunk_sound h
  exact ⟨by simpa using this.2.1, this.2.2.1⟩

/-- a record returned by Unmarshal always consumed input: reading a finite stream until the first error terminates -/
theorem C05_junk_consumes (s : Bytes) (off : Nat) (at_ : Bytes) (h : skipJunk (s.length + 1) s 0 = .inr (off, at_)) :
    at_.length + off = s.length ∧ 5 ≤ at_.length := by
  obtain ⟨_, hd, _, h5⟩ := skipJunk_sound h
  rw [hd, List.length_drop] at h5 ⊢
  omega

end Gowarc.Props.C05
