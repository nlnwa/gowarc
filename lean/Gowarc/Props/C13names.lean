/-
  C13, names — "names are unique": the file names PatternNameGenerator hands out.

  The sequential writer model (Model/Writer.lean, Props/C13.lean) identifies a file by the serial its generator call
  returned. This file closes the gap to the real generator: for the DEFAULT pattern (regenerated from warcfile.go) the model
  of NewWarcfileName / Sprintt (Model/NameGen.lean, tied by correspondence kind `namegen`) yields
      prefix ++ ts ++ "-" ++ zero-padded serial ++ "-" ++ hostOrIp ++ "." ++ extension
  and two calls of one generator never return the same name: the serial is strictly increased by every call and the
  rendering of the serial is injective, whatever the prefix, the extension, the host name and the time stamps (14 digits
  each, `timestamp.UTC14`) are. int32 wrap-around of the serial after 2^31 files is outside the model.
-/
import Gowarc.Model.NameGen
import Gowarc.Lemmas.Decimal
namespace Gowarc.Props.C13
open Gowarc.NameGen

theorem digitsVal_pad (w n : Nat) : digitsVal (pad true false w (natToDec n)) = n := by
  unfold pad
  rw [if_neg Bool.false_ne_true, if_pos rfl, digitsVal_zeros, digitsVal_natToDec]

theorem pad_serial_injective (w n m : Nat) (h : pad true false w (natToDec n) = pad true false w (natToDec m)) : n = m := by
  rw [← digitsVal_pad w n, h, digitsVal_pad]

/-- the default pattern, as extracted from warcfile.go on this run, tokenizes to five named fields (verbs 115 = `s`,
    100 = `d`) with the literals 45 = `-` and 46 = `.` between them -/
theorem default_pattern_tokens :
    tokenize ((bs Gen.w_defaultPattern).length + 1) (bs Gen.w_defaultPattern) =
      some [.spec ⟨false, false, 0, bs "prefix", 115⟩, .spec ⟨false, false, 0, bs "ts", 115⟩, .lit 45,
            .spec ⟨true, false, 4, bs "serial", 100⟩, .lit 45, .spec ⟨false, false, 0, bs "hostOrIp", 115⟩, .lit 46,
            .spec ⟨false, false, 0, bs "ext", 115⟩] := by decide +kernel

def extOf (g : NameGen.Gen) : Bytes := if g.extension.isEmpty then bs Gen.w_defaultExtension else g.extension

/-- **the default file name** -/
theorem default_name (g : NameGen.Gen) (hp : g.pattern = []) (hs : 0 ≤ g.serial) (ts hostOrIp host ip : Bytes) :
    (newName g ts hostOrIp host ip).1 =
      some (g.prefix_ ++ (ts ++ (45 :: (pad true false 4 (natToDec (g.serial + 1).toNat) ++ (45 :: (hostOrIp ++ (46 :: extOf g))))))) := by
  obtain ⟨n, hn⟩ := Int.eq_ofNat_of_zero_le (show 0 ≤ g.serial + 1 by omega)
  unfold newName sprintt
  simp only [hp, List.isEmpty_nil, ↓reduceIte, default_pattern_tokens]
  simp only [render, lookup, builtins, List.find?, List.cons_append, renderSpec, hn]
  simp [fmtInt, pad, extOf, bs]

theorem newName_serial (g : NameGen.Gen) (ts hostOrIp host ip : Bytes) : (newName g ts hostOrIp host ip).2.serial = g.serial + 1 := rfl

/-- **names are unique**: two names of the default pattern that come from different serials differ — for any prefix,
    extension and host, and any two time stamps of the same length -/
theorem C13_generator_names_unique (g1 g2 : NameGen.Gen) (hp1 : g1.pattern = []) (hp2 : g2.pattern = [])
    (hpre : g1.prefix_ = g2.prefix_) (hext : g1.extension = g2.extension) (hs1 : 0 ≤ g1.serial) (hs2 : 0 ≤ g2.serial)
    (ts1 ts2 hostOrIp host ip : Bytes) (hts : ts1.length = ts2.length)
    (hname : (newName g1 ts1 hostOrIp host ip).1 = (newName g2 ts2 hostOrIp host ip).1) : g1.serial = g2.serial := by
  rw [default_name g1 hp1 hs1, default_name g2 hp2 hs2, hpre] at hname
  simp only [Option.some.injEq] at hname
  have h1 := List.append_cancel_left hname
  obtain ⟨_, h2⟩ := List.append_inj h1 hts
  simp only [List.cons.injEq, true_and] at h2
  have hsuf : extOf g1 = extOf g2 := by unfold extOf; rw [hext]
  rw [hsuf] at h2
  have h3 := List.append_cancel_right h2
  have h4 := pad_serial_injective 4 _ _ h3
  -- `toNat` is injective on the non-negative serials: `h4` with `hs1`, `hs2`
  omega

/-- consecutive calls of one generator: the serial grows, so no name is handed out twice -/
theorem C13_next_name_differs (g : NameGen.Gen) (hp : g.pattern = []) (hs : 0 ≤ g.serial) (ts1 ts2 hostOrIp host ip : Bytes)
    (hts : ts1.length = ts2.length) :
    (newName g ts1 hostOrIp host ip).1 ≠ (newName (newName g ts1 hostOrIp host ip).2 ts2 hostOrIp host ip).1 := by
  intro h
  have := C13_generator_names_unique g (newName g ts1 hostOrIp host ip).2 hp hp rfl rfl hs (by rw [newName_serial]; omega)
    ts1 ts2 hostOrIp host ip hts h
  rw [newName_serial] at this
  omega

/-- non-vacuity: the first two names of a fresh default generator -/
example : (newName ⟨bs "p-", 0, [], [], []⟩ (bs "20200102030405") (bs "h") (bs "h") (bs "i")).1 = some (bs "p-20200102030405-0001-h.warc") ∧
    (newName (newName ⟨bs "p-", 0, [], [], []⟩ (bs "20200102030405") (bs "h") (bs "h") (bs "i")).2 (bs "20200102030405") (bs "h") (bs "h") (bs "i")).1
      = some (bs "p-20200102030405-0002-h.warc") := by decide +kernel

end Gowarc.Props.C13
