/-
  C06, visibility of the cut for plain records.

  A cut shows (`Visible`) when Unmarshal returns an error (io.EOF counts: it is reported at the offset where the partial
  record starts, which is smaller than the stream length), or a record that carries the trailer finding and leaves fewer
  than four bytes, so that the next call is an error. The four places a cut can fall in — the magic, the version line, the
  header section, block and trailer — have a lemma each; `visible_plain` puts them together for EVERY strict prefix of a
  serialized record with clean fields and a truthful Content-Length, every block content, every policy with spec
  checking on. The statements named in DESIGN are these lemmas with `Visible` weakened to "an error or the trailer finding".

  Behind a complete header section the cut shows because fewer than four bytes stand behind the declared block
  (`unmarshalTail_visible`); inside the header section because the header parser never takes the cut for the end of the
  section (`cut_header_endsEmpty`), so that nothing at all is left for the block.
-/
import Gowarc.Lemmas.CutHeader
import Gowarc.Lemmas.Serialized
import Gowarc.Props.C01comp
namespace Gowarc.Props.C06
open Gowarc.Props.C19 Gowarc.Props.C01

variable (H : Alg → Bytes → Bytes)

/-- the cut that left the stream `p` shows in what Unmarshal returns -/
def Visible (o : Opts) (Ω : Oracles) (p : Bytes) : Prop :=
  (unmarshal H o Ω ⟨p, false⟩).err ≠ none ∨
  (Tag.specTrailer ∈ (unmarshal H o Ω ⟨p, false⟩).fnd ∧ (unmarshal H o Ω ⟨p, false⟩).rest.length < 4)

theorem unmarshalTail_visible {o : Opts} {Ω : Oracles} (hspec : o.spec ≠ .ignore) {vt : Bytes} {vi : Nat} {fs : Fields}
    {s' : Stream} {st st' : St} {r : Option Rec} {rest : Bytes}
    (h : unmarshalTail H o Ω vt vi fs s' st = (.ok (r, rest), st')) (hshort : (afterBlock fs s').length < 4) :
    Tag.specTrailer ∈ st'.fnd ∧ rest.length < 4 := by
  obtain ⟨_, hr, ht⟩ := unmarshalTail_out H h
  refine ⟨(ht hspec).resolve_left (fun e => ?_), ?_⟩
  · have := congrArg List.length e
    rw [List.length_take, crlfcrlf_length] at this
    omega
  · rw [hr]; exact Nat.lt_of_le_of_lt (trailerRest_length_le _) hshort

/-- the shape in which `unmarshal_after_version` and `unmarshal_serialized` leave the result -/
theorem visible_of_result {o : Opts} {Ω : Oracles} {p : Bytes} {x : Except Tag (Option Rec × Bytes) × St}
    (hu : unmarshal H o Ω ⟨p, false⟩ = (match x with
      | (.ok (r, rest), st) => ⟨r, 0, st.fnd, none, rest⟩
      | (.error t, st) => ⟨none, 0, st.fnd, some t, []⟩))
    (h : ∀ r rest st, x = (.ok (r, rest), st) → Tag.specTrailer ∈ st.fnd ∧ rest.length < 4) : Visible H o Ω p := by
  unfold Visible
  rw [hu]
  obtain ⟨res, st⟩ := x
  cases res with
  | error t => exact .inl (by simp)
  | ok v => exact .inr (h v.1 v.2 st rfl)

theorem visible_cut_in_header {o : Opts} (Ω : Oracles) (hspec : o.spec ≠ .ignore) {ver : Bytes} (hnolf : LF ∉ ver)
    {fs : Fields} (hne : fs ≠ []) (hclean : ∀ nv ∈ fs, CleanField nv) {k : Nat} (hk : k < (headerText fs).length) :
    Visible H o Ω (bs "WARC/" ++ ver ++ crlf ++ (headerText fs).take k) := by
  refine visible_of_result H (unmarshal_after_version H o Ω ver _ false hnolf) ?_
  intro r rest st hb
  obtain ⟨vt, vi, fs', f, s', st1, hp, ht⟩ := unmarshalBody_ok H hb
  -- the header parser has used up the stream: nothing at all is left behind the block
  have hpe : (parseFields o.syn ⟨(headerText fs).take k, false⟩).endsEmpty := by
    -- a fuel that serves both lemmas: at least the stream length + 2 for `C05_parse_total`, at least a round for each
    -- field and one for the cut line for `cut_header_endsEmpty`
    rw [← C05.C05_parse_total o.syn _ (((headerText fs).take k).length + 2 + (fs.length + 1)) (Nat.le_add_right _ _)]
    exact cut_header_endsEmpty o.syn fs [] _ k hne hclean (Nat.le_add_left _ _) hk
  rw [hp] at hpe
  refine unmarshalTail_visible H hspec ht (Nat.lt_of_le_of_lt (afterBlock_length_le fs' s') ?_)
  rw [show s'.rest = [] from hpe]; decide

theorem visible_cut_behind_header {o : Opts} (Ω : Oracles) (hspec : o.spec ≠ .ignore)
    {ver : String} {vid : Nat} (hver : (ver, vid) ∈ Gen.versions)
    (hfind : Gen.versions.find? (fun p => bs p.1 == bs ver) = some (ver, vid))
    (hnolf : LF ∉ bs ver) (htrim : trim isWs (bs ver ++ crlf) = bs ver)
    {fs : Fields} (hne : fs ≠ []) (hclean : ∀ nv ∈ fs, CleanField nv)
    {B : Bytes} (hcl : contentLengthOf fs = (B.length : Int)) {k : Nat} (hk : k < B.length + 4) :
    Visible H o Ω (bs "WARC/" ++ bs ver ++ crlf ++ Fields.write fs ++ crlf ++ (B ++ crlfcrlf).take k) := by
  refine visible_of_result H (unmarshal_serialized H o Ω ver vid hver hfind hnolf htrim fs hne hclean _) ?_
  intro r rest st ht
  refine unmarshalTail_visible H hspec ht ?_
  simp only [(declaredBlock_of_length _ hcl).2, List.length_drop, List.length_take, List.length_append, crlfcrlf_length]
  omega

theorem unmarshal_short (o : Opts) (Ω : Oracles) (p : Bytes) (h : p.length < 5) : (unmarshal H o Ω ⟨p, false⟩).err ≠ none := by
  rw [unmarshal_short_eq H o Ω p false h]; simp

theorem unmarshal_cut_version (o : Opts) (Ω : Oracles) (after : Bytes) (hnl : LF ∉ after) :
    (unmarshal H o Ω ⟨bs "WARC/" ++ after, false⟩).err ≠ none := by
  rw [unmarshal_cut_version_eq H o Ω after false hnl]; simp

theorem visible_plain {o : Opts} (Ω : Oracles) (hspec : o.spec ≠ .ignore)
    {ver : String} {vid : Nat} (hver : (ver, vid) ∈ Gen.versions)
    (hfind : Gen.versions.find? (fun p => bs p.1 == bs ver) = some (ver, vid))
    (hnolf : LF ∉ bs ver) (htrim : trim isWs (bs ver ++ crlf) = bs ver)
    {fs : Fields} (hne : fs ≠ []) (hclean : ∀ nv ∈ fs, CleanField nv)
    {B : Bytes} (hcl : contentLengthOf fs = (B.length : Int)) :
    ∀ k, k < (bs "WARC/" ++ (bs ver ++ crlf) ++ headerText fs ++ (B ++ crlfcrlf)).length →
      Visible H o Ω ((bs "WARC/" ++ (bs ver ++ crlf) ++ headerText fs ++ (B ++ crlfcrlf)).take k) := by
  apply forall_take_append (P := Visible H o Ω)
  · apply forall_take_append (P := Visible H o Ω)
    · apply forall_take_append (P := Visible H o Ω)
      · intro k hk
        exact .inl (unmarshal_short H o Ω _ (by rw [List.length_take]; exact Nat.lt_of_le_of_lt (Nat.min_le_left _ _) hk))
      · intro k hk
        exact .inl (unmarshal_cut_version H o Ω _ (nolf_take_crlf _ k hnolf hk))
    · intro k hk
      rw [← List.append_assoc]
      exact visible_cut_in_header H Ω hspec hnolf hne hclean hk
  · intro k hk
    rw [headerText, ← List.append_assoc, ← List.append_assoc]
    exact visible_cut_behind_header H Ω hspec hver hfind hnolf htrim hne hclean hcl (by rwa [List.length_append, crlfcrlf_length] at hk)

/-! ### the statements DESIGN names -/

/-- **visible, cut inside the header section** -/
theorem C06_cut_in_header (o : Opts) (Ω : Oracles) (hspec : o.spec ≠ .ignore) (ver : Bytes) (hnolf : LF ∉ ver)
    (fs : Fields) (hne : fs ≠ []) (hclean : ∀ nv ∈ fs, CleanField nv) (k : Nat) (hk : k < (headerText fs).length) :
    (unmarshal H o Ω ⟨bs "WARC/" ++ ver ++ crlf ++ (headerText fs).take k, false⟩).err ≠ none ∨
    Tag.specTrailer ∈ (unmarshal H o Ω ⟨bs "WARC/" ++ ver ++ crlf ++ (headerText fs).take k, false⟩).fnd :=
  (visible_cut_in_header H Ω hspec hnolf hne hclean hk).imp id And.left

/-- **the cut is visible behind the header section**: a record with clean fields and a truthful Content-Length, cut
    anywhere inside its block or its trailer, is never returned as a clean record when spec checking is on -/
theorem C06_cut_behind_header (o : Opts) (Ω : Oracles) (hspec : o.spec ≠ .ignore)
    (ver : String) (vid : Nat) (hver : (ver, vid) ∈ Gen.versions)
    (hfind : Gen.versions.find? (fun p => bs p.1 == bs ver) = some (ver, vid))
    (hnolf : LF ∉ bs ver) (htrim : trim isWs (bs ver ++ crlf) = bs ver)
    (fs : Fields) (hne : fs ≠ []) (hclean : ∀ nv ∈ fs, CleanField nv)
    (B : Bytes) (hcl : contentLengthOf fs = (B.length : Int)) (k : Nat) (hk : k < B.length + 4) :
    (unmarshal H o Ω ⟨bs "WARC/" ++ bs ver ++ crlf ++ Fields.write fs ++ crlf ++ (B ++ crlfcrlf).take k, false⟩).err ≠ none ∨
    Tag.specTrailer ∈ (unmarshal H o Ω ⟨bs "WARC/" ++ bs ver ++ crlf ++ Fields.write fs ++ crlf ++ (B ++ crlfcrlf).take k, false⟩).fnd :=
  (visible_cut_behind_header H Ω hspec hver hfind hnolf htrim hne hclean hcl hk).imp id And.left

/-- **the cut is always visible (plain records)**: every strict, non-empty prefix of a serialized record with clean
    fields and a truthful Content-Length — whatever the block contains — makes Unmarshal return an error or a record that
    carries the trailer finding, under every policy with spec checking on -/
theorem C06_visible_plain (o : Opts) (Ω : Oracles) (hspec : o.spec ≠ .ignore)
    (ver : String) (vid : Nat) (hver : (ver, vid) ∈ Gen.versions)
    (hfind : Gen.versions.find? (fun p => bs p.1 == bs ver) = some (ver, vid))
    (hnolf : LF ∉ bs ver) (htrim : trim isWs (bs ver ++ crlf) = bs ver)
    (fs : Fields) (hne : fs ≠ []) (hclean : ∀ nv ∈ fs, CleanField nv)
    (B : Bytes) (hcl : contentLengthOf fs = (B.length : Int)) (k : Nat)
    (hk : k < (bs "WARC/" ++ (bs ver ++ crlf) ++ headerText fs ++ (B ++ crlfcrlf)).length) :
    (unmarshal H o Ω ⟨(bs "WARC/" ++ (bs ver ++ crlf) ++ headerText fs ++ (B ++ crlfcrlf)).take k, false⟩).err ≠ none ∨
    Tag.specTrailer ∈ (unmarshal H o Ω ⟨(bs "WARC/" ++ (bs ver ++ crlf) ++ headerText fs ++ (B ++ crlfcrlf)).take k, false⟩).fnd :=
  (visible_plain H Ω hspec hver hfind hnolf htrim hne hclean hcl k hk).imp id And.left

end Gowarc.Props.C06
