/-
  C04 — Writer and reader agree on record positions (random access).

  Model: `SW` (Model/Writer.lean) — one singleWarcFileWriter as a state machine over files that are lists of members.
  Tie: correspondence kind `writer` (public API, one worker; responses, files as read back by an independent scanner,
  callbacks), with the property's clauses judged on the implementation: every reported (file, offset) is the start of
  exactly that record for the scanner and for a freshly opened gowarc reader, sequential reading reports the same
  offsets under three chunking behaviours of the source, EOF is reported at the file length.

  Theorems here: the tracked size is the length of the open file in every reachable state (the `currentFileSize`
  anchor), the reported offset is where the record's bytes start — in the state right after the write and in every
  later state (files only grow at the end, closed files never change) — and sequential decoding of a file with any
  self-delimiting codec visits exactly the members at their prefix-sum offsets and ends at the file length.
-/
import Gowarc.Lemmas.WriterLemmas
import Gowarc.Lemmas.Lists
namespace Gowarc.Props.C04
open Gowarc.SW

/-- reachable-state invariant of the sequential writer -/
structure Inv (s : SW) : Prop where
  ord : Ordered s.files s.serial
  cur : ∀ id, s.cur = some id → id = s.serial ∧ 0 < s.serial ∧ s.curSize = fileSize s.files id
  idle : s.cur = none → s.curSize = 0
  opn : ∀ f ∈ s.files, (f.isOpen = true ↔ s.cur = some f.id)

theorem inv_init : Inv SW.init :=
  ⟨rfl, (by intro id h; cases h), fun _ => rfl, (by intro f hf; cases hf)⟩

theorem Inv.closed {s : SW} (h : Inv s) (hc : s.cur = none) : ∀ f ∈ s.files, f.isOpen = false := fun f hf =>
  Bool.eq_false_iff.2 fun ho => nomatch hc.symm.trans ((h.opn f hf).1 ho)

theorem close_idle {s : SW} (hc : s.cur = none) : close s = s := by simp [close, hc]

theorem close_open {s : SW} {id : Nat} (hc : s.cur = some id) :
    close s = { s with cur := none, curSize := 0, files := modFile s.files id (fun f => { f with isOpen := false }),
                       callbacks := s.callbacks ++ [⟨id, s.curSize, s.infoOf⟩] } := by simp [close, hc]

/-- a state with an open file, in normal form: the closed files, then the open one, as long as the tracked size says -/
theorem Inv.decomp {s : SW} (h : Inv s) {id : Nat} (hc : s.cur = some id) :
    ∃ init l, s.files = init ++ [l] ∧ l.id = id ∧ (∀ f ∈ init, f.id ≠ l.id) ∧ (∀ f ∈ init, f.isOpen = false) ∧
      l.isOpen = true ∧ s.curSize = l.size := by
  obtain ⟨rfl, hpos, hsz⟩ := h.cur id hc
  obtain ⟨init, l, hfs, hl, hne⟩ := h.ord.last hpos
  -- `opn` read on `init ++ [l]`: the last file is the current one, so it is open, and the others, whose ids differ, are not
  have hopn := h.opn
  simp only [hfs, hc, ← hl, List.forall_mem_append, List.forall_mem_singleton, Option.some.injEq, iff_true] at hopn
  exact ⟨init, l, hfs, hl, hne, fun f hf => Bool.eq_false_iff.2 fun ho => hne f hf ((hopn.1 f hf).1 ho).symm, hopn.2,
    by rw [hsz, hfs, ← hl, fileSize_append_last _ hne]⟩

/-- writeRecord: the member goes to the end of file `id`, and the tracked size is read back from the file -/
def push (s : SW) (id : Nat) (m : Member) : SW :=
  { s with files := modFile s.files id (fun f => { f with members := f.members ++ [m] }),
           curSize := fileSize (modFile s.files id (fun f => { f with members := f.members ++ [m] })) id }

/-- on the normal form, `push` lengthens the last file -/
theorem push_snoc {s : SW} {init : List WFile} {l : WFile} (hfs : s.files = init ++ [l]) (hne : ∀ f ∈ init, f.id ≠ l.id)
    (m : Member) :
    push s l.id m = { s with files := init ++ [{ l with members := l.members ++ [m] }], curSize := l.size + m.bytes.length } := by
  simp [push, hfs, modFile_append_last _ hne, fileSize_append_last { l with members := l.members ++ [m] } hne,
    WFile.size, WFile.content]

/-- … and `close` takes its in-progress mark away and reports it -/
theorem close_snoc {s : SW} {init : List WFile} {l : WFile} (hc : s.cur = some l.id) (hfs : s.files = init ++ [l])
    (hne : ∀ f ∈ init, f.id ≠ l.id) :
    close s = { s with cur := none, curSize := 0, files := init ++ [{ l with isOpen := false }],
                       callbacks := s.callbacks ++ [⟨l.id, s.curSize, s.infoOf⟩] } := by
  rw [close_open hc, hfs, modFile_append_last _ hne]

theorem close_inv (s : SW) (h : Inv s) : Inv (close s) := by
  cases hc : s.cur with
  | none => rwa [close_idle hc]
  | some id =>
    obtain ⟨init, l, hfs, rfl, hne, hcl, -, -⟩ := h.decomp hc
    rw [close_snoc hc hfs hne]
    refine ⟨?_, (by intro _ h'; cases h'), fun _ => rfl, ?_⟩
    · have := h.ord; rw [hfs] at this; simpa [Ordered] using this
    · exact forall_mem_snoc (fun f hf => by simp [hcl f hf]) (by simp)

/-- the file `createFile` makes: empty, or holding its warcinfo member -/
def fresh (c : WCfg) (id : Nat) (ib : Nat → Bytes) : WFile := ⟨id, if c.info then [⟨0, ib id, none⟩] else [], true⟩

theorem fresh_id (c : WCfg) (id : Nat) (ib : Nat → Bytes) : (fresh c id ib).id = id := rfl
theorem fresh_isOpen (c : WCfg) (id : Nat) (ib : Nat → Bytes) : (fresh c id ib).isOpen = true := rfl
theorem fresh_members (c : WCfg) (id : Nat) (ib : Nat → Bytes) :
    (fresh c id ib).members = if c.info then [⟨0, ib id, none⟩] else [] := rfl

/-- both branches of `createFile` at once -/
theorem createFile_eq (c : WCfg) (s : SW) (ib : Nat → Bytes) :
    createFile c s ib = { s with cur := some (s.serial + 1), serial := s.serial + 1,
                                 infoOf := if c.info then some (s.serial + 1) else s.infoOf,
                                 curSize := if c.info then (ib (s.serial + 1)).length else s.curSize,
                                 files := s.files ++ [fresh c (s.serial + 1) ib] } := by
  unfold createFile fresh
  split <;> rfl

theorem fresh_size (c : WCfg) (id : Nat) (ib : Nat → Bytes) : (fresh c id ib).size = if c.info then (ib id).length else 0 := by
  cases hi : c.info <;> simp [fresh_members, WFile.size, WFile.content, hi]

theorem createFile_inv (c : WCfg) (s : SW) (ib : Nat → Bytes) (hn : s.cur = none) (h : Inv s) : Inv (createFile c s ib) := by
  have hfresh : ∀ f ∈ s.files, f.id ≠ s.serial + 1 := by
    intro f hf; have := h.ord.mem_le hf; omega
  rw [createFile_eq, h.idle hn]
  refine ⟨h.ord.snoc rfl, ?_, (by intro h'; cases h'), ?_⟩
  · rintro _ ⟨⟩
    exact ⟨rfl, Nat.succ_pos _, ((fileSize_append_last (fresh c _ ib) hfresh).trans (fresh_size ..)).symm⟩
  · exact forall_mem_snoc (fun f hf => by simpa [h.closed hn f hf] using fun e => hfresh f hf e.symm) (by simp [fresh_id, fresh_isOpen])

theorem push_inv {s : SW} {id : Nat} (m : Member) (hc : s.cur = some id) (h : Inv s) : Inv (push s id m) := by
  refine ⟨?_, fun id' hid' => ?_, fun hn => ?_, fun f' hf' => ?_⟩
  · show Ordered (modFile s.files id _) s.serial
    exact (modFile_ids _ _ _ (by intro; rfl)).trans h.ord
  · cases hc.symm.trans hid'
    exact ⟨(h.cur id hc).1, (h.cur id hc).2.1, rfl⟩
  · cases hc.symm.trans hn
  · obtain ⟨f, hf, rfl⟩ := (mem_modFile ..).1 hf'
    show _ ↔ s.cur = _
    split <;> exact h.opn f hf

/-- the state in which the record is appended: after the fit test and, if needed, the creation of a file -/
def ready (c : WCfg) (s : SW) (cl : Bool) (ib : Nat → Bytes) : SW :=
  let s1 := if cl then close s else s
  if s1.cur.isNone then createFile c s1 ib else s1

theorem ready_cur (c : WCfg) (s : SW) (cl : Bool) (ib : Nat → Bytes) : ∃ id, (ready c s cl ib).cur = some id := by
  unfold ready
  generalize (if cl then close s else s) = s1
  cases hc : s1.cur with
  | none => simp only [hc, Option.isNone_none, if_true]; rw [createFile_eq]; exact ⟨_, rfl⟩
  | some id => exact ⟨id, by simp [hc]⟩

/-- `Write`: refused by the fit test, or the member is pushed onto the file that is open in the `ready` state -/
theorem write_cases (c : WCfg) (scale : Int → Int) (s : SW) (r : WRec) :
    (fitClose c scale s r.decl = none ∧ write c scale s r = (s, ⟨none, 0, 0, true⟩)) ∨
    ∃ cl id, fitClose c scale s r.decl = some cl ∧ (ready c s cl r.infoBytes).cur = some id ∧
      write c scale s r =
        (push (ready c s cl r.infoBytes) id ⟨r.tok, r.enc (ready c s cl r.infoBytes).infoOf, (ready c s cl r.infoBytes).infoOf⟩,
         ⟨some id, (ready c s cl r.infoBytes).curSize, r.ulen (ready c s cl r.infoBytes).infoOf, false⟩) := by
  cases hf : fitClose c scale s r.decl with
  | none => exact Or.inl ⟨rfl, by unfold write; rw [hf]⟩
  | some cl =>
    obtain ⟨id, hid⟩ := ready_cur c s cl r.infoBytes
    refine Or.inr ⟨cl, id, rfl, hid, ?_⟩
    unfold write; rw [hf]
    simp only [push, ready] at hid ⊢
    simp only [hid]

theorem writeFailed_cases (c : WCfg) (scale : Int → Int) (s : SW) (r : WRec) :
    writeFailed c scale s r = (s, ⟨none, 0, 0, true⟩) ∨
    ∃ cl, fitClose c scale s r.decl = some cl ∧ writeFailed c scale s r = (ready c s cl r.infoBytes, ⟨none, 0, 0, true⟩) := by
  unfold writeFailed
  cases fitClose c scale s r.decl with
  | none => exact Or.inl rfl
  | some cl => exact Or.inr ⟨cl, rfl, rfl⟩

/-- the state a segmented Write ends in is that of two Writes in a row, or of a failed Write -/
theorem writeSeg_state (c : WCfg) (scale : Int → Int) (s : SW) (r n : WRec) :
    (writeSeg c scale s r n).1 = (write c scale s r).1 ∨
    (writeSeg c scale s r n).1 = (writeFailed c scale s r).1 ∨
    (writeSeg c scale s r n).1 = (write c scale (write c scale s r).1 n).1 := by
  unfold writeSeg
  split
  · exact Or.inl rfl
  · split
    · exact Or.inr (Or.inl rfl)
    · exact Or.inr (Or.inr rfl)

/-! ### every operation is made of `close`, `createFile` and `push` -/

section
variable (c : WCfg) (scale : Int → Int) {P : SW → Prop} (hclose : ∀ s, P s → P (close s))
  (hcreate : ∀ s ib, s.cur = none → P s → P (createFile c s ib))
  (hpush : ∀ s id tok b, s.cur = some id → P s → P (push s id ⟨tok, b, s.infoOf⟩))
include hclose hcreate

theorem ready_ind (s : SW) (cl : Bool) (ib : Nat → Bytes) (h : P s) : P (ready c s cl ib) := by
  unfold ready
  have h1 : P (if cl then close s else s) := by split; exact hclose s h; exact h
  generalize (if cl then close s else s) = s1 at h1
  cases hc : s1.cur with
  | none => simpa [hc] using hcreate s1 ib hc h1
  | some id => simpa [hc] using h1

include hpush

/-- **what holds before an operation and is kept by `close`, `createFile` and `push` holds after it** -/
theorem step_ind (s : SW) (op : WOp) (h : P s) : P (step c scale s op).1 := by
  have hwrite : ∀ s r, P s → P (write c scale s r).1 := by
    intro s r h
    rcases write_cases c scale s r with ⟨-, e⟩ | ⟨cl, id, -, hid, e⟩ <;> rw [e]
    · exact h
    · exact hpush _ id _ _ hid (ready_ind c hclose hcreate s cl _ h)
  have hfailed : ∀ s r, P s → P (writeFailed c scale s r).1 := by
    intro s r h
    rcases writeFailed_cases c scale s r with e | ⟨cl, -, e⟩ <;> rw [e]
    · exact h
    · exact ready_ind c hclose hcreate s cl _ h
  cases op with
  | write r => exact hwrite s r h
  | rotate => exact hclose s h
  | failed r => exact hfailed s r h
  | seg r n =>
    show P (writeSeg c scale s r n).1
    rcases writeSeg_state c scale s r n with e | e | e <;> rw [e]
    · exact hwrite s r h
    · exact hfailed s r h
    · exact hwrite _ n (hwrite s r h)

end

theorem run_ind (c : WCfg) (scale : Int → Int) {P : SW → Prop} (hstep : ∀ s op, P s → P (step c scale s op).1)
    (ops : List WOp) (s : SW) (h : P s) : P (run c scale s ops).1 := by
  induction ops generalizing s with
  | nil => exact h
  | cons op rest ih => exact ih _ (hstep s op h)

theorem step_inv (c : WCfg) (scale : Int → Int) (s : SW) (op : WOp) (h : Inv s) : Inv (step c scale s op).1 :=
  step_ind c scale close_inv (createFile_inv c) (fun _ _ _ _ => push_inv _) s op h

theorem write_inv (c : WCfg) (scale : Int → Int) (s : SW) (r : WRec) (h : Inv s) : Inv (write c scale s r).1 :=
  step_inv c scale s (.write r) h

/-- a record that fails to marshal leaves the invariant alone: nothing of it stays in the file -/
theorem writeFailed_inv (c : WCfg) (scale : Int → Int) (s : SW) (r : WRec) (h : Inv s) : Inv (writeFailed c scale s r).1 :=
  step_inv c scale s (.failed r) h

theorem writeSeg_inv (c : WCfg) (scale : Int → Int) (s : SW) (r n : WRec) (h : Inv s) : Inv (writeSeg c scale s r n).1 :=
  step_inv c scale s (.seg r n) h

/-- **the invariant holds in every reachable state**: in particular the tracked size is the length of the open file -/
theorem C04_inv (c : WCfg) (scale : Int → Int) (ops : List WOp) : Inv (run c scale SW.init ops).1 :=
  run_ind c scale (step_inv c scale) ops _ inv_init

theorem C04_tracked_size (c : WCfg) (scale : Int → Int) (ops : List WOp) (id : Nat)
    (h : (run c scale SW.init ops).1.cur = some id) :
    ∃ f ∈ (run c scale SW.init ops).1.files, f.id = id ∧ f.isOpen = true ∧ (run c scale SW.init ops).1.curSize = f.size := by
  obtain ⟨init, l, hfs, hid, -, -, hop, hsz⟩ := (C04_inv c scale ops).decomp h
  exact ⟨l, by rw [hfs]; simp, hid, hop, hsz⟩

/-- the bytes `b` lie in file `id` at offset `off` -/
def At (s : SW) (id off : Nat) (b : Bytes) : Prop :=
  ∃ f ∈ s.files, f.id = id ∧ ∃ pre post, f.content = pre ++ b ++ post ∧ pre.length = off

/-- file `id` is there and its content has the property `Q`; `At s id off b` is `Holds id (fun x => ∃ pre post, x = pre ++ b ++ post ∧ pre.length = off) s` -/
def Holds (id : Nat) (Q : Bytes → Prop) (s : SW) : Prop := ∃ f ∈ s.files, f.id = id ∧ Q f.content

section
variable {id : Nat} {Q : Bytes → Prop} (hQ : ∀ x t, Q x → Q (x ++ t))
include hQ

/-- `close` and `push` rewrite one file, keeping its id and at most appending to its content -/
theorem Holds.modFile {s s' : SW} (id' : Nat) (g : WFile → WFile) (hs : s'.files = modFile s.files id' g)
    (hg : ∀ f, (g f).id = f.id ∧ ∃ t, (g f).content = f.content ++ t) (h : Holds id Q s) : Holds id Q s' := by
  obtain ⟨f, hf, hid, hq⟩ := h
  refine ⟨_, hs ▸ (mem_modFile ..).2 ⟨f, hf, rfl⟩, ?_⟩
  split
  · obtain ⟨hi, t, ht⟩ := hg f
    exact ⟨hi.trans hid, ht ▸ hQ _ t hq⟩
  · exact ⟨hid, hq⟩

theorem step_holds (c : WCfg) (scale : Int → Int) (s : SW) (op : WOp) (h : Holds id Q s) : Holds id Q (step c scale s op).1 :=
  step_ind c scale (P := Holds id Q)
    (fun s h => by
      cases hc : s.cur with
      | none => rwa [close_idle hc]
      | some id' =>
        exact h.modFile hQ id' (fun f => { f with isOpen := false }) (by rw [close_open hc]) fun f => ⟨rfl, [], (List.append_nil _).symm⟩)
    (fun s ib _ ⟨f, hf, r⟩ => ⟨f, by rw [createFile_eq]; exact List.mem_append_left _ hf, r⟩)
    (fun s id' _ b _ h => h.modFile hQ id' _ rfl fun f => ⟨rfl, b, content_append_member f _⟩) s op h

theorem run_grows (c : WCfg) (scale : Int → Int) (ops : List WOp) (s : SW) (h : Holds id Q s) : Holds id Q (run c scale s ops).1 :=
  run_ind c scale (step_holds hQ c scale) ops s h

end

theorem step_grows (c : WCfg) (scale : Int → Int) (s : SW) (op : WOp) (f : WFile) (hf : f ∈ s.files) :
    ∃ f' ∈ (step c scale s op).1.files, f'.id = f.id ∧ ∃ post, f'.content = f.content ++ post :=
  step_holds (Q := fun x => ∃ post, x = f.content ++ post) (fun _ t ⟨p, e⟩ => ⟨p ++ t, by rw [e, List.append_assoc]⟩)
    c scale s op ⟨f, hf, rfl, [], (List.append_nil _).symm⟩

/-- bytes that lie at an offset of a file lie there after any further run: what is appended goes behind them -/
theorem At.run {s : SW} {id off : Nat} {b : Bytes} (c : WCfg) (scale : Int → Int) (ops : List WOp) (h : At s id off b) :
    At (run c scale s ops).1 id off b :=
  run_grows (Q := fun x => ∃ pre post, x = pre ++ b ++ post ∧ pre.length = off)
    (fun _ t ⟨pre, post, e, hl⟩ => ⟨pre, post ++ t, by rw [e, List.append_assoc], hl⟩) c scale ops s h

theorem ready_inv (c : WCfg) (s : SW) (cl : Bool) (ib : Nat → Bytes) (h : Inv s) : Inv (ready c s cl ib) :=
  ready_ind c close_inv (createFile_inv c) s cl ib h

/-- where `push` puts the member, and what it makes of the tracked size -/
theorem push_at {s : SW} {id : Nat} (h : Inv s) (hc : s.cur = some id) (m : Member) :
    (push s id m).cur = some id ∧ (push s id m).curSize = s.curSize + m.bytes.length ∧ At (push s id m) id s.curSize m.bytes := by
  obtain ⟨init, l, hfs, rfl, hne, -, -, hsz⟩ := h.decomp hc
  rw [push_snoc hfs hne, hsz]
  exact ⟨hc, rfl, _, List.mem_append_right _ (List.mem_singleton_self _), rfl, l.content, [], by simp [WFile.content], rfl⟩

/-- **a successful Write, in full**: the response names the file that is open afterwards, the offset at which the
    member's bytes now lie in it, and the tracked size is the offset behind them -/
theorem write_ok (c : WCfg) (scale : Int → Int) (s : SW) (r : WRec) (h : Inv s) (hok : (write c scale s r).2.err = false) :
    ∃ id stamp, (write c scale s r).2.file = some id ∧ (write c scale s r).2.written = r.ulen stamp ∧
      (write c scale s r).1.cur = some id ∧
      (write c scale s r).1.curSize = (write c scale s r).2.off + (r.enc stamp).length ∧
      At (write c scale s r).1 id (write c scale s r).2.off (r.enc stamp) := by
  rcases write_cases c scale s r with ⟨-, e⟩ | ⟨cl, id, -, hid, e⟩ <;> rw [e] at hok ⊢
  · cases hok
  · exact ⟨id, _, rfl, rfl, push_at (ready_inv c s cl _ h) hid _⟩

/-- **the reported offset is where the record starts**: right after a successful Write the member's bytes lie in the
    reported file at the reported offset, and BytesWritten is the uncompressed serialized length -/
theorem C04_offset (c : WCfg) (scale : Int → Int) (s : SW) (r : WRec) (h : Inv s) (hok : (write c scale s r).2.err = false) :
    ∃ id stamp, (write c scale s r).2.file = some id ∧ (write c scale s r).2.written = r.ulen stamp ∧
      At (write c scale s r).1 id (write c scale s r).2.off (r.enc stamp) := by
  obtain ⟨id, stamp, hf, hw, -, -, hat⟩ := write_ok c scale s r h hok
  exact ⟨id, stamp, hf, hw, hat⟩

/-- … **and it stays there**: whatever is written, rotated or closed afterwards -/
theorem C04_offset_stable (c : WCfg) (scale : Int → Int) (s : SW) (r : WRec) (later : List WOp) (h : Inv s)
    (hok : (write c scale s r).2.err = false) :
    ∃ id stamp, (write c scale s r).2.file = some id ∧
      At (run c scale (write c scale s r).1 later).1 id (write c scale s r).2.off (r.enc stamp) := by
  obtain ⟨id, stamp, hf, _, hat⟩ := C04_offset c scale s r h hok
  exact ⟨id, stamp, hf, hat.run c scale later⟩

/-- **a segmented record is reported where its first segment starts**: when the marshaler splits a record, the single
    response names the file and offset at which the FIRST segment (the record carrying the id the caller wrote) lies —
    not the continuation — the byte count is the sum of both serialized lengths, and the position stays valid through
    the nested write of the continuation (which may rotate) and everything written later -/
theorem C04_seg_offset (c : WCfg) (scale : Int → Int) (s : SW) (r n : WRec) (later : List WOp) (h : Inv s)
    (hok : (writeSeg c scale s r n).2.err = false) :
    ∃ id stamp stamp2, (writeSeg c scale s r n).2.file = some id ∧
      (writeSeg c scale s r n).2.written = r.ulen stamp + n.ulen stamp2 ∧
      At (run c scale (writeSeg c scale s r n).1 later).1 id (writeSeg c scale s r n).2.off (r.enc stamp) := by
  unfold writeSeg at hok ⊢
  split at hok
  · rename_i h1; rw [h1] at hok; cases hok
  · rename_i h1
    rw [if_neg h1]
    split at hok
    · rcases writeFailed_cases c scale s r with e | ⟨_, _, e⟩ <;> rw [e] at hok <;> cases hok
    · obtain ⟨id, stamp, hf, hw, hat⟩ := C04_offset c scale s r h (by simpa using h1)
      obtain ⟨_, stamp2, _, hw2, _⟩ := C04_offset c scale _ n (write_inv c scale s r h) hok
      exact ⟨id, stamp, stamp2, hf, by rw [hw, hw2], hat.run c scale (.write n :: later)⟩

/-- where `ready` leaves a state that had file `id` open: as it was, or at the start of file `id + 1`, behind its
    warcinfo member if there is one (`(fresh c (id + 1) ib).size`, written as the product `C13_fit` states it with) -/
theorem ready_open (c : WCfg) {s : SW} {id : Nat} (h : Inv s) (hc : s.cur = some id) (cl : Bool) (ib : Nat → Bytes) :
    (ready c s cl ib).cur = some (if cl then id + 1 else id) ∧
    (ready c s cl ib).curSize = if cl then (ib (id + 1)).length * (if c.info then 1 else 0) else s.curSize := by
  cases cl with
  | false => simp [ready, hc]
  | true =>
    obtain ⟨rfl, -⟩ := h.cur id hc
    cases hi : c.info <;> simp [ready, close_open hc, createFile_eq, hi]

theorem write_open (c : WCfg) (scale : Int → Int) {s : SW} {id : Nat} {cl : Bool} (r : WRec) (h : Inv s) (hc : s.cur = some id)
    (hfit : fitClose c scale s r.decl = some cl) :
    (write c scale s r).2.file = some (if cl then id + 1 else id) ∧
    (write c scale s r).2.off = if cl then (r.infoBytes (id + 1)).length * (if c.info then 1 else 0) else s.curSize := by
  rcases write_cases c scale s r with ⟨e, -⟩ | ⟨cl', id', hf', hid, e⟩ <;> rw [hfit] at *
  · cases e
  · cases hf'
    rw [e, ← hid]
    exact ready_open c h hc cl r.infoBytes

/-! ### sequential reading of a file of members -/

variable {α : Type} (dec : Bytes → Option (α × Bytes))

/-- read records until the input is used up or the decoder stops; reports (offset, record) pairs and the end offset -/
def readAll : Nat → Nat → Bytes → List (Nat × α) × Nat
  | 0, off, _ => ([], off)
  | fuel + 1, off, inp =>
    if inp.isEmpty then ([], off)
    else match dec inp with
      | none => ([], off)
      | some (x, rest) => ((off, x) :: (readAll fuel (off + (inp.length - rest.length)) rest).1, (readAll fuel (off + (inp.length - rest.length)) rest).2)

/-- offsets of a list of members laid end to end -/
def offsets : Nat → List Bytes → List Nat
  | _, [] => []
  | off, b :: rest => off :: offsets (off + b.length) rest

/-- for ANY self-delimiting codec (`dec (enc x ++ rest) = some (x, rest)`, members non-empty): reading the concatenation
    of the members sequentially returns exactly the records, at the prefix-sum offsets, and ends at the total length -/
theorem C04_sequential (enc : α → Bytes) (hcodec : ∀ x rest, dec (enc x ++ rest) = some (x, rest)) (hpos : ∀ x, enc x ≠ [])
    (xs : List α) (off : Nat) (fuel : Nat) (hfuel : xs.length < fuel) :
    readAll dec fuel off ((xs.map enc).flatten) =
      ((offsets off (xs.map enc)).zip xs, off + ((xs.map enc).flatten).length) := by
  induction xs generalizing off fuel with
  | nil =>
    cases fuel with
    | zero => simp at hfuel
    | succ f => simp [readAll]
  | cons x rest ih =>
    cases fuel with
    | zero => simp at hfuel
    | succ f =>
      have hne : (enc x ++ (rest.map enc).flatten).isEmpty = false := by simp [hpos x]
      simp only [List.map_cons, List.flatten_cons, readAll, hne, Bool.false_eq_true, ↓reduceIte, hcodec, offsets,
        List.zip_cons_cons, List.length_append, Nat.add_sub_cancel]
      rw [ih (off + (enc x).length) f (by simp at hfuel; omega), Nat.add_assoc]


/-! ### non-vacuity: a concrete run with a rotation -/
def exRec (tok n : Nat) : WRec := ⟨tok, .val n, fun _ => List.replicate n 7, fun _ => n, fun _ => [1, 2, 3]⟩
example : ((run ⟨10, false, true⟩ id SW.init [.write (exRec 1 6), .write (exRec 2 6), .rotate, .write (exRec 3 2)]).2.map (fun o => o.map (fun r => (r.file, r.off)))) =
    [some (some 1, 3), some (some 2, 3), none, some (some 3, 3)] := by decide

end Gowarc.Props.C04
