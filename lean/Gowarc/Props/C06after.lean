/-
  C06, "returns nothing after them as a clean record" — for plain records.

  After the complete members of a cut file, reading goes on with the cut remainder alone (`C06_members_survive`). This file
  shows what that reading yields: at most one record (which then carries the trailer finding) followed by an error item, or
  an error item at once; in particular NO item of the result is a clean record (no error and no finding).
-/
import Gowarc.Props.C06
import Gowarc.Props.C06header
namespace Gowarc.Props.C06
open Gowarc.Props.C19 Gowarc.Props.C01

variable (H : Alg → Bytes → Bytes)

/-- reading a stream on which the cut shows: the first item is an error or carries a finding, and what it leaves is too
    short for anything but an error item, which ends the loop -/
theorem readLoop_no_clean {o : Opts} {Ω : Oracles} (fuel base : Nat) {p : Bytes} (hvis : Visible H o Ω p) :
    ∀ it ∈ readLoop H o Ω fuel base ⟨p, false⟩, it.err ≠ none ∨ it.fnd ≠ [] := by
  intro it hit
  cases fuel with
  | zero => cases hit
  | succ n =>
    cases he : (unmarshal H o Ω ⟨p, false⟩).err with
    | some e =>
      rw [readLoop_err H n base he] at hit
      cases List.mem_singleton.mp hit
      exact .inl (by simp)
    | none =>
      obtain ⟨hf, hshort⟩ := hvis.resolve_left (fun h => h he)
      rw [readLoop_succ H n base he] at hit
      rcases List.mem_cons.mp hit with rfl | hit
      · exact .inr (List.ne_nil_of_mem hf)
      · cases n with
        | zero => cases hit
        | succ m =>
          rw [readLoop_err H m _ (congrArg URes.err (unmarshal_short_eq H o Ω _ false (Nat.lt_succ_of_lt hshort)))] at hit
          cases List.mem_singleton.mp hit
          exact .inl (by simp)

/-- **nothing after the complete records is a clean record** (plain records): reading any strict non-empty prefix of a
    serialized record with clean fields and truthful Content-Length yields no clean record at all -/
theorem C06_nothing_clean_after (o : Opts) (Ω : Oracles) (hspec : o.spec ≠ .ignore)
    (ver : String) (vid : Nat) (hver : (ver, vid) ∈ Gen.versions)
    (hfind : Gen.versions.find? (fun p => bs p.1 == bs ver) = some (ver, vid))
    (hnolf : LF ∉ bs ver) (htrim : trim isWs (bs ver ++ crlf) = bs ver)
    (fs : Fields) (hne : fs ≠ []) (hclean : ∀ nv ∈ fs, CleanField nv)
    (B : Bytes) (hcl : contentLengthOf fs = (B.length : Int)) (k fuel base : Nat)
    (hk : k < (bs "WARC/" ++ (bs ver ++ crlf) ++ headerText fs ++ (B ++ crlfcrlf)).length) :
    ∀ it ∈ readLoop H o Ω fuel base ⟨(bs "WARC/" ++ (bs ver ++ crlf) ++ headerText fs ++ (B ++ crlfcrlf)).take k, false⟩,
      it.err ≠ none ∨ it.fnd ≠ [] :=
  readLoop_no_clean H fuel base (visible_plain H Ω hspec hver hfind hnolf htrim hne hclean hcl k hk)

end Gowarc.Props.C06
