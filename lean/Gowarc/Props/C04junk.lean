/-
  C04, last clause — "for any input stream, whatever offset the reader reports for a record — also after skipping junk
  between records — is a position from which a fresh reader returns that same record".

  Proved here for the full `unmarshal` model and EVERY stream (no well-formedness assumption, plain or gzip, any
  policy): reading again from the reported offset gives the same record, the same error status, leaves the same rest, at
  offset 0, with the same findings except the "junk before the record" finding the first read had put in front. The
  gzip decoder is the oracle `Ω.gz`, seen from the new position (`Oracles.shift`).
-/
import Gowarc.Lemmas.Frame
import Gowarc.Lemmas.StreamLemmas
import Gowarc.Lemmas.RecordShape
namespace Gowarc.Props.C04

variable (H : Alg → Bytes → Bytes)

/-- the findings an initial junk skip contributes -/
def junkFinding (o : Opts) (off : Nat) : List Tag := if o.syn != .ignore && off != 0 then [.synJunk] else []

/-- junk skipped in front moves the reported offset and puts its finding in front; nothing else depends on it -/
theorem atMagic_frame (o : Opts) (Ω : Oracles) (off : Nat) (f0 : List Tag) (a : Bytes) (fault : Bool) :
    atMagic H o Ω off f0 a fault = { atMagic H o Ω 0 [] a fault with offset := off, fnd := f0 ++ (atMagic H o Ω 0 [] a fault).fnd } :=
  atMagic_rel H (R := fun r r0 => r = { r0 with offset := off, fnd := f0 ++ r0.fnd }) o o Ω off 0 f0 [] a fault
    (fun _ => by simp) (fun _ _ => unmarshalBody_frame.ofRun off [] f0) (fun _ r0 bad rest h => by rw [h, gzFinish_frame])

/-- **the junk law**: if Unmarshal returned a record at offset `off` of a stream, Unmarshal on the stream from `off`
    returns the same record at offset 0 — same error status, same rest, same findings apart from the junk finding -/
theorem C04_junk (o : Opts) (Ω : Oracles) (s : Stream) (r : Rec) (hrec : (unmarshal H o Ω s).record = some r) :
    (unmarshal H o Ω ⟨s.rest.drop (unmarshal H o Ω s).offset, s.fault⟩).record = some r ∧
    (unmarshal H o Ω ⟨s.rest.drop (unmarshal H o Ω s).offset, s.fault⟩).offset = 0 ∧
    (unmarshal H o Ω ⟨s.rest.drop (unmarshal H o Ω s).offset, s.fault⟩).err = (unmarshal H o Ω s).err ∧
    (unmarshal H o Ω ⟨s.rest.drop (unmarshal H o Ω s).offset, s.fault⟩).rest = (unmarshal H o Ω s).rest ∧
    (unmarshal H o Ω s).fnd = junkFinding o (unmarshal H o Ω s).offset ++ (unmarshal H o Ω ⟨s.rest.drop (unmarshal H o Ω s).offset, s.fault⟩).fnd := by
  -- the first read found the magic bytes after `off` bytes of junk
  rcases unmarshal_cases H o Ω s with ⟨off, t, rest, e⟩ | ⟨off, a, hsk, hoff⟩
  · rw [e] at hrec; cases hrec
  · rw [unmarshal_of_skip H hsk hoff, atMagic_frame] at hrec ⊢
    obtain ⟨_, ha, hmagic, hlen⟩ := skipJunk_sound hsk
    simp only [Nat.sub_zero] at ha
    rw [← ha, unmarshal_at_magic H o Ω a s.fault hmagic hlen]
    exact ⟨hrec, by rw [atMagic_frame], rfl, rfl, rfl⟩

/-- non-vacuity of the junk finding: with a warn policy and junk in front the first read reports it, the second does not -/
example : junkFinding ⟨.warn, .warn, .warn, .ignore, false, true, true, true, true, true, true, false, bs "sha1", .b32⟩ 3 = [.synJunk] := by decide

end Gowarc.Props.C04
