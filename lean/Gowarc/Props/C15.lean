/-
  C15 — No temporary file or descriptor outlives Close.

  Model: `RState` (Model/Resources.lean) — which handle (builder, record, derived record, reader) closes which spill
  buffer; a buffer has a temp file + descriptor from the moment its memory part is full until it is closed.
  Tie: correspondence kind `res` — scenarios of API calls (builders with sizes around the threshold, Build with and
  without errors, Unmarshal of every block kind with read faults at every position, ToRevisitRecord / Merge, Marshal into
  failing writers, reader construction with valid and rejected offsets, Close in any order, twice); after EVERY step the
  harness lists a private temp directory and /proc/self/fd and the numbers must equal the model's; after closing what was
  returned both must be zero (judged on the implementation).

  Theorems: in every reachable state every buffer that has a temp file belongs to a handle whose Close still takes
  effect — a builder or reader (every Close), a record that has not been closed yet (a record's Close works once,
  record.go drops the closer) — (`C15_owned`), and closing the handles — in any order, any number of times — leaves no temp file and no descriptor
  (`close_every_handle`; `C15_close` is the case `closeAll`). Close is NOT terminal for a buffer that has not spilled yet (diskbuffer.Close only deals with the file
  part): bytes written into a builder after its Close may still spill, and the next Close removes that file — histories
  with Close, Write, Close are part of the quantifier (seed C15-j).
-/
import Gowarc.Model.Resources
import Gowarc.Lemmas.Lists
namespace Gowarc.Props.C15
open Gowarc.RState

@[reducible] def Owned (s : RState) : Prop :=
  ∀ (i : Nat) (b : RBuf), s.bufs[i]? = some b → b.hasFile = true →
    ∃ (h : Nat) (hd : RHandle), s.handles[h]? = some hd ∧ hd.live = true ∧ i ∈ hd.bufs

/-- the accessors `step` uses, at a handle that exists -/
theorem handle_get {s : RState} {h : Nat} {hd : RHandle} (hg : s.handles[h]? = some hd) :
    s.handleBufs h = hd.bufs ∧ s.handleLive h = hd.live ∧ s.handleOnce h = hd.once := by
  simp only [handleBufs, handleLive, handleOnce, hg, and_self]

theorem shut_shut (b : RBuf) : b.shut.shut = b.shut := by
  unfold RBuf.shut; split <;> simp_all

theorem shut_noFile (b : RBuf) : b.shut.hasFile = false := by
  unfold RBuf.shut RBuf.hasFile
  split <;> simp_all

theorem closeBufs_get (is : List Nat) (bufs : List RBuf) (i : Nat) :
    (closeBufs bufs is)[i]? = (bufs[i]?).map (fun b => if i ∈ is then b.shut else b) :=
  foldl_modify_get shut_shut is bufs i

/-- adding a handle keeps every buffer with a temp file owned, provided new such buffers belong to the new (live) handle -/
theorem owned_add_handle {s : RState} {n : RHandle} {bufs' : List RBuf} (h : Owned s)
    (hb : ∀ i b', bufs'[i]? = some b' → b'.hasFile = true → (∃ b, s.bufs[i]? = some b ∧ b.hasFile = true) ∨ (n.live = true ∧ i ∈ n.bufs)) :
    Owned ⟨bufs', s.handles ++ [n]⟩ := by
  intro i b' hg hc
  rcases hb i b' hg hc with ⟨b, hgb, hcb⟩ | ⟨hl, hi⟩
  · obtain ⟨hh, hd, hgh, hlv, hm⟩ := h i b hgb hcb
    exact ⟨hh, hd, by rw [List.getElem?_append_left (List.getElem?_eq_some_iff.1 hgh).1]; exact hgh, hlv, hm⟩
  · exact ⟨s.handles.length, n, by simp, hl, hi⟩

/-- a buffer appended to the list belongs to the new handle -/
theorem owned_push {s : RState} {n : RHandle} {nb : RBuf} (h : Owned s) (hl : n.live = true) (hn : s.bufs.length ∈ n.bufs) :
    Owned ⟨s.bufs ++ [nb], s.handles ++ [n]⟩ := by
  apply owned_add_handle h
  intro i b' hg hc
  rw [List.getElem?_append] at hg
  split at hg
  · exact Or.inl ⟨b', hg, hc⟩
  · next hi =>
    have : i - s.bufs.length < 1 := (List.getElem?_eq_some_iff.1 hg).1
    exact Or.inr ⟨hl, (by omega : i = s.bufs.length) ▸ hn⟩

theorem owned_new_handle {s : RState} {n : RHandle} (h : Owned s) : Owned ⟨s.bufs, s.handles ++ [n]⟩ :=
  owned_add_handle h fun _ b' hg hc => Or.inl ⟨b', hg, hc⟩

theorem close_handles_get (s : RState) (a h : Nat) :
    (step s (.close a)).handles[h]? =
      (s.handles[h]?).map (fun hd => if a = h then { hd with fd := false, isOpen := false } else hd) :=
  List.getElem?_modify ..

theorem close_bufs_get (s : RState) (a i : Nat) :
    (step s (.close a)).bufs[i]? =
      (s.bufs[i]?).map (fun b => if s.handleLive a = true ∧ i ∈ s.handleBufs a then b.shut else b) := by
  show (if s.handleLive a = true then closeBufs s.bufs (s.handleBufs a) else s.bufs)[i]? = _
  split
  · next hl => rw [closeBufs_get]; simp [hl]
  · next hl => cases s.bufs[i]? <;> simp [hl]

theorem step_write (s : RState) (h n : Nat) : step s (.write h n) =
    if s.handleOnce h then s
    else ⟨(s.handleBufs h).foldl (fun bs i => bs.modify i fun b => { b with size := b.size + n }) s.bufs, s.handles⟩ := rfl

theorem step_merge (s : RState) (hrev horig : Nat) (hasCloser : Bool) : step s (.merge hrev horig hasCloser) =
    if hasCloser then ⟨s.bufs, s.handles.modify hrev fun hd => { hd with bufs := hd.bufs ++ s.handleBufs horig }⟩ else s := rfl

theorem step_owned (s : RState) (op : ROp) (h : Owned s) : Owned (step s op) := by
  cases op with
  | newBuilder max => exact owned_push h rfl (by simp)
  | write hh n =>
    rw [step_write]
    split
    · exact h
    · next ho =>
      intro i b' hg hc
      by_cases hin : i ∈ s.handleBufs hh
      · -- the handle written through owns the buffer and is a builder, hence live
        cases hgh : s.handles[hh]? with
        | none => simp [handleBufs, hgh] at hin
        | some hd =>
          obtain ⟨hb, _, hon⟩ := handle_get hgh
          exact ⟨hh, hd, hgh, by rw [RHandle.live, ← hon]; simp [ho], hb ▸ hin⟩
      · exact h i b' (foldl_modify_get_of_not_mem hin s.bufs ▸ hg) hc
  | build hh => exact owned_new_handle h
  | unmarshal cache =>
    cases cache with
    | none => exact owned_new_handle h
    | some mn => exact owned_push h rfl (by simp)
  | derive => exact owned_new_handle h
  | openReader => exact owned_new_handle h
  | merge hrev horig hasCloser =>
    rw [step_merge]
    split
    · intro i b hg hc
      obtain ⟨hh, hd, hgh, hlv, hm⟩ := h i b hg hc
      refine ⟨hh, if hrev = hh then { hd with bufs := hd.bufs ++ s.handleBufs horig } else hd, ?_, ?_, ?_⟩
      · show (s.handles.modify hrev _)[hh]? = _
        rw [List.getElem?_modify, hgh]; rfl
      · split <;> exact hlv
      · split
        · simp [hm]
        · exact hm
    · exact h
  | close hh =>
    -- a buffer that still has its file was not shut: its owner is another handle, which Close leaves alone
    intro i b' hg hc
    rw [close_bufs_get] at hg
    obtain ⟨b, hb, rfl⟩ := Option.map_eq_some_iff.1 hg
    split at hc
    · rw [shut_noFile] at hc; cases hc
    · next hna =>
      obtain ⟨h2, hd, hgh, hlv, hm⟩ := h i b hb hc
      obtain ⟨hbufs, hlive, _⟩ := handle_get hgh
      have hne : hh ≠ h2 := fun e => hna (e ▸ ⟨hlive ▸ hlv, hbufs ▸ hm⟩)
      exact ⟨h2, hd, by rw [close_handles_get, hgh]; simp [hne], hlv, hm⟩

/-- **every buffer that has a temp file belongs to a handle whose Close still takes effect**, in every reachable state -/
theorem C15_owned (ops : List ROp) : Owned (run RState.init ops) := by
  suffices ∀ s, Owned s → Owned (run s ops) from this _ (by intro i b hg; simp [RState.init] at hg)
  induction ops with
  | nil => intro s h; exact h
  | cons op rest ih => intro s h; exact ih _ (step_owned s op h)

theorem run_close_handles_get (L : List Nat) (s : RState) (h : Nat) :
    (run s (L.map ROp.close)).handles[h]? =
      (s.handles[h]?).map (fun hd => if h ∈ L then { hd with fd := false, isOpen := false } else hd) := by
  have : (run s (L.map ROp.close)).handles =
      L.foldl (fun hs a => hs.modify a fun hd => { hd with fd := false, isOpen := false }) s.handles := by
    induction L generalizing s with
    | nil => rfl
    | cons a rest ih => exact ih _
  rw [this]; exact foldl_modify_get (by intro; rfl) ..

theorem close_handleBufs (s : RState) (a h : Nat) : (step s (.close a)).handleBufs h = s.handleBufs h := by
  unfold handleBufs; rw [close_handles_get]
  cases s.handles[h]? with
  | none => rfl
  | some hd => by_cases e : a = h <;> simp [e]

/-- Close can only end a handle's liveness, and only its own -/
theorem close_handleLive (s : RState) (a h : Nat) :
    ((step s (.close a)).handleLive h = true → s.handleLive h = true) ∧
    (a ≠ h → (step s (.close a)).handleLive h = s.handleLive h) := by
  unfold handleLive; rw [close_handles_get]
  cases s.handles[h]? with
  | none => exact ⟨id, fun _ => rfl⟩
  | some hd => by_cases e : a = h <;> simp +contextual [e, RHandle.live]

/-- a series of Close calls, in closed form: exactly the buffers of the handles whose Close takes effect are shut -/
theorem run_close_bufs_get (L : List Nat) (s : RState) (i : Nat) :
    (run s (L.map ROp.close)).bufs[i]? =
      (s.bufs[i]?).map (fun b => if ∃ h ∈ L, s.handleLive h = true ∧ i ∈ s.handleBufs h then b.shut else b) := by
  induction L generalizing s with
  | nil => simp [run]
  | cons a rest ih =>
    rw [List.map_cons, run, ih, close_bufs_get]
    -- a later Close that takes effect would have done so at the start; one on another handle is not affected by this one
    have : (∃ h ∈ a :: rest, s.handleLive h = true ∧ i ∈ s.handleBufs h) ↔
        (s.handleLive a = true ∧ i ∈ s.handleBufs a) ∨
        ∃ h ∈ rest, (step s (.close a)).handleLive h = true ∧ i ∈ (step s (.close a)).handleBufs h := by
      simp only [close_handleBufs]
      constructor
      · rintro ⟨h, hm, hl, hi⟩
        by_cases e : a = h
        · exact Or.inl (e ▸ ⟨hl, hi⟩)
        · exact Or.inr ⟨h, (List.mem_cons.1 hm).resolve_left (Ne.symm e), (close_handleLive s a h).2 e ▸ hl, hi⟩
      · rintro (hc | ⟨h, hm, hl, hi⟩)
        · exact ⟨a, List.mem_cons_self, hc⟩
        · exact ⟨h, List.mem_cons_of_mem _ hm, (close_handleLive s a h).1 hl, hi⟩
    cases s.bufs[i]? with
    | none => rfl
    | some b => simp only [Option.map_some, ite_ite_idem shut_shut, this]

/-- closing handles: a buffer without temp file stays without one; a buffer of a handle in the list whose Close takes
    effect ends without one -/
theorem run_close_noFile (L : List Nat) (s : RState) (i : Nat) (b : RBuf) (hg : s.bufs[i]? = some b)
    (hcase : b.hasFile = false ∨ ∃ h ∈ L, s.handleLive h = true ∧ i ∈ s.handleBufs h) :
    ∃ b', (run s (L.map ROp.close)).bufs[i]? = some b' ∧ b'.hasFile = false := by
  rw [run_close_bufs_get, hg]
  refine ⟨_, rfl, ?_⟩
  split
  · exact shut_noFile b
  · exact hcase.resolve_right ‹_›

/-- Close on every handle, in any order and any number of times, leaves no temp file and no descriptor -/
theorem close_every_handle (L : List Nat) (s : RState) (hall : ∀ h, h < s.handles.length → h ∈ L) (h : Owned s) :
    (run s (L.map ROp.close)).files = 0 ∧ (run s (L.map ROp.close)).fds = 0 := by
  have hfiles : (run s (L.map ROp.close)).files = 0 := by
    rw [files, List.length_eq_zero_iff, List.filter_eq_nil_iff]
    intro b' hb
    obtain ⟨i, hg⟩ := List.mem_iff_getElem?.1 hb
    rw [run_close_bufs_get] at hg
    obtain ⟨b, hgs, rfl⟩ := Option.map_eq_some_iff.1 hg
    split
    · simp [shut_noFile]
    · next hn =>
      -- not shut, so it had no file: the owner of one is among the handles closed
      intro hc
      obtain ⟨hh, hd, hgh, hlv, hm⟩ := h i b hgs hc
      obtain ⟨hb, hl, _⟩ := handle_get hgh
      exact hn ⟨hh, hall hh (List.getElem?_eq_some_iff.1 hgh).1, hl ▸ hlv, hb ▸ hm⟩
  refine ⟨hfiles, ?_⟩
  rw [fds, hfiles, Nat.zero_add, List.length_eq_zero_iff, List.filter_eq_nil_iff]
  intro hd hm
  obtain ⟨i, hg⟩ := List.mem_iff_getElem?.1 hm
  rw [run_close_handles_get] at hg
  obtain ⟨hd0, hs, rfl⟩ := Option.map_eq_some_iff.1 hg
  simp [hall i (List.getElem?_eq_some_iff.1 hs).1]

/-- **after Close on everything the caller holds no temp file and no descriptor remains** -/
theorem C15_close (s : RState) (h : Owned s) : (closeAll s).files = 0 ∧ (closeAll s).fds = 0 :=
  close_every_handle _ s (fun _ => List.mem_range.2) h

/-- **right after a Close that takes effect (any Close on a builder or reader, the first Close on a record) none of the
    handle's buffers has a temp file** — in any state, whatever was written before (also into a builder that had been
    closed earlier) -/
theorem C15_close_releases (s : RState) (h i : Nat) (b : RBuf) (hg : s.bufs[i]? = some b) (hl : s.handleLive h = true)
    (hi : i ∈ s.handleBufs h) :
    ∃ b', (step s (.close h)).bufs[i]? = some b' ∧ b'.hasFile = false :=
  run_close_noFile [h] s i b hg (Or.inr ⟨h, by simp, hl, hi⟩)

/-- the full statement: any scenario, then Close on everything that was returned -/
theorem C15_scenario (ops : List ROp) : (closeAll (run RState.init ops)).files = 0 ∧ (closeAll (run RState.init ops)).fds = 0 :=
  C15_close _ (C15_owned ops)

/-! ### non-vacuity: a builder that spilled, a record built from it, a reader -/
example : (run RState.init [.newBuilder 4, .write 0 9, .build 0, .openReader]).files = 1 ∧
          (run RState.init [.newBuilder 4, .write 0 9, .build 0, .openReader]).fds = 2 := by decide
example : (closeAll (run RState.init [.newBuilder 4, .write 0 9, .build 0, .openReader])).fds = 0 := by decide
-- Build, Close(record), a spilling write into the builder, Close(record) again: the second Close releases nothing, the
-- builder's Close does
example : (run RState.init [.newBuilder 4, .write 0 2, .build 0, .close 1, .write 0 9, .close 1]).files = 1 ∧
          (run RState.init [.newBuilder 4, .write 0 2, .build 0, .close 1, .write 0 9, .close 1, .close 0]).files = 0 := by decide
-- Close on a builder that has not spilled, a write that spills, Close again: the file exists in between and is gone at the end
example : (run RState.init [.newBuilder 4, .write 0 2, .close 0, .write 0 9]).files = 1 ∧
          (run RState.init [.newBuilder 4, .write 0 2, .close 0, .write 0 9, .close 0]).files = 0 := by decide

end Gowarc.Props.C15
