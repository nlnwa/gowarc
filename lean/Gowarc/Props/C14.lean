/-
  C14 — The spill buffer behaves exactly like an in-memory buffer.

  Model: `Gowarc.Buf`, `Gowarc.Slice` (Model/Buffer.lean), a transcription of internal/diskbuffer tied to /repo by the
  step-wise correspondence (kind `buf`, which also compares the model's `file.isSome` with the existence of the temp file).
  Specification: `Spec.SBuf` — one byte list and an offset.
-/
import Gowarc.Lemmas.BufferLemmas
namespace Gowarc.Props.C14
open Gowarc.Spec

/-- operations of the property: writes (Write/WriteString/ReadFrom deliver bytes; ReadFrom's chunking is invisible in the
    model because the memory/file split does not depend on it), then reads -/
inductive Op where
  | write (p : Bytes) | read (n : Nat) | peek (n : Nat) | readBytes (d : UInt8) | seekStart | size

inductive Out where
  | n (k : Nat) | rd (bytes : Bytes) (eof : Bool) | unit
  deriving DecidableEq

def step (b : Buf) : Op → Buf × Out
  | .write p => (b.write p, .n p.length)
  | .read n => ((b.read n).2, .rd (b.read n).1.1 (b.read n).1.2)
  | .peek n => (b, .rd (b.peek n).1 (b.peek n).2)
  | .readBytes d => ((b.readBytes d).2, .rd (b.readBytes d).1.1 (b.readBytes d).1.2)
  | .seekStart => (b.seekStart, .unit)
  | .size => (b, .n b.size)

def specStep (s : SBuf) : Op → SBuf × Out
  | .write p => (s.write p, .n p.length)
  | .read n => ((s.read n).2, .rd (s.read n).1.1 (s.read n).1.2)
  | .peek n => (s, .rd (s.peek n).1 (s.peek n).2)
  | .readBytes d => ({ s with off := (specLine s.data s.off d).2.2 }, .rd (specLine s.data s.off d).1 (specLine s.data s.off d).2.1)
  | .seekStart => ({ s with off := 0 }, .unit)
  | .size => (s, .n s.size)

def run (b : Buf) : List Op → List Out
  | [] => []
  | op :: rest => (step b op).2 :: run (step b op).1 rest

def specRun (s : SBuf) : List Op → List Out
  | [] => []
  | op :: rest => (specStep s op).2 :: specRun (specStep s op).1 rest

/-- abstraction function -/
def abs (b : Buf) : SBuf := ⟨b.data, b.off⟩

/-- one step: same output as the plain buffer, abstraction commutes, invariant preserved — for every threshold. -/
theorem C14_step (b : Buf) (op : Op) (h : b.Inv) :
    (step b op).2 = (specStep (abs b) op).2 ∧ abs (step b op).1 = (specStep (abs b) op).1 ∧ (step b op).1.Inv := by
  cases op with
  | write p =>
    exact ⟨rfl, by simp only [step, specStep, abs, SBuf.write, Buf.write_data b p h, Buf.write_off], Buf.write_inv b p h⟩
  | read n => simp only [step, specStep, abs, SBuf.read, Buf.read_spec]; exact ⟨trivial, rfl, h.withOff _⟩
  | peek n => exact ⟨by simp only [step, specStep, abs, SBuf.peek, Buf.peek_spec], rfl, h⟩
  | readBytes d => simp only [step, specStep, abs, Buf.readBytes_spec b d h]; exact ⟨trivial, rfl, h.withOff _⟩
  | seekStart => exact ⟨rfl, rfl, h.withOff 0⟩
  | size => exact ⟨by simp only [step, specStep, abs, SBuf.size, Buf.size_eq], rfl, h⟩

/-- **C14** — for every threshold ≥ 1 and every sequence of writes and reads (any sizes, line reads, peeks, seek to
    start, size) the spill buffer returns exactly the bytes, counts and end-of-data signals of a plain in-memory buffer. -/
theorem C14_refines (ops : List Op) (b : Buf) (h : b.Inv) : run b ops = specRun (abs b) ops := by
  induction ops generalizing b with
  | nil => rfl
  | cons op rest ih =>
    have hs := C14_step b op h
    simp only [run, specRun]
    rw [hs.1, ih _ hs.2.2, hs.2.1]

theorem C14_from_new (max : Nat) (hmax : 0 < max) (ops : List Op) :
    run (Buf.new max) ops = specRun ⟨[], 0⟩ ops :=
  C14_refines ops (Buf.new max) (Buf.inv_new max hmax)

/-- no write can hit the nil file buffer (the Go code would dereference nil there) -/
theorem C14_no_panic (b : Buf) (h : b.Inv) : b.writeFaults = false := by
  unfold Buf.writeFaults Buf.memHasSpace Buf.memLen
  rcases h.cases with ⟨hs, _⟩ | ⟨_, f, hf⟩
  · simp [hs]
  · simp [hf]

/-- end-of-data is signalled only when nothing remains, and always when a non-empty request returns nothing -/
theorem C14_eof_sound (data : Bytes) (off n : Nat) :
    ((SBuf.readAt data off n).2 = true → data.length ≤ off + (SBuf.readAt data off n).1.length) ∧
    ((SBuf.readAt data off n).1 = [] → 0 < n → (SBuf.readAt data off n).2 = true) := readAt_eof_sound data off n

/-- read-only slice views (read, peek): bytes of the view, sound end-of-data -/
theorem C14_slice_read (s : Slice) (b : Buf) (off n : Nat) (h : b.Inv) :
    (s.readAt b off n).1 = (SBuf.readAt (SBuf.view b.data s.soff s.len) off n).1 ∧
    ((s.readAt b off n).2 = true → (SBuf.view b.data s.soff s.len).length ≤ off + (s.readAt b off n).1.length) ∧
    ((s.readAt b off n).1 = [] → 0 < n → (s.readAt b off n).2 = true) := Slice.readAt_spec s b off n

/-- Size of a slice view that lies inside the buffer -/
theorem C14_slice_size (s : Slice) (b : Buf) (hin : s.soff + (s.len.getD 0) ≤ b.data.length) :
    s.size b = ((SBuf.view b.data s.soff s.len).length : Int) := by
  unfold Slice.size
  rw [view_length]
  cases hl : s.len with
  | none => simp only; rw [Buf.size_eq]; omega
  | some l => simp [hl] at hin ⊢; omega

/-- line reads on slice views: `slice.ReadBytes` / `ReadString` (a loop of 100-byte `ReadAtOffset` calls) return exactly
    the line a plain in-memory buffer holding the slice's bytes returns, and leave the position behind it -/
theorem C14_slice_line (s : Slice) (b : Buf) (d : UInt8) (h : b.Inv) :
    (s.readBytes b d).1 = ((specLine (SBuf.view b.data s.soff s.len) s.pos d).1, (specLine (SBuf.view b.data s.soff s.len) s.pos d).2.1) ∧
    (s.readBytes b d).2.pos = (specLine (SBuf.view b.data s.soff s.len) s.pos d).2.2 := by
  have hfuel : (SBuf.view b.data s.soff s.len).length ≤ s.pos + (b.size / 100 + 2) * 100 := by
    have hv : (SBuf.view b.data s.soff s.len).length ≤ b.data.length := by
      rw [view_length]; split <;> omega
    have hs : b.size = b.data.length := Buf.size_eq b
    omega
  have hloop := Slice.lineLoop_spec s b d (b.size / 100 + 2) s.pos [] hfuel
  unfold Slice.readBytes
  cases hl : s.len with
  | none => rw [hl] at hloop; simp only [hloop, List.nil_append]; exact ⟨trivial, trivial⟩
  | some l =>
    by_cases hle : l ≤ s.pos
    · simp only [hle, ↓reduceIte]
      have hv : (SBuf.view b.data s.soff (some l)).length ≤ s.pos := by
        rw [view_length]; simp only; omega
      rw [specLine_past _ _ d hv]; exact ⟨rfl, rfl⟩
    · rw [hl] at hloop; simp only [hle, ↓reduceIte, hloop, List.nil_append]; exact ⟨trivial, trivial⟩

/-- non-vacuity: threshold 3 falls inside the first write and inside the line -/
example : run (Buf.new 3) [.write (bs "ab\ncd"), .write (bs "e\nf"), .readBytes 10, .read 2, .peek 9, .readBytes 10, .readBytes 10]
    = [.n 5, .n 3, .rd (bs "ab\n") false, .rd (bs "cd") false, .rd (bs "e\nf") true, .rd (bs "e\n") false, .rd (bs "f") true] := by
  decide +kernel

end Gowarc.Props.C14
