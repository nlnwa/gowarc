/-
  Field names as keys. The names the record level and the revisit code write or ask for are their own canonical forms
  (`canon_of_table`), so two of them are different keys as soon as they are different byte strings. Each fact is
  evaluated here once and used by name wherever a `Set` on one field is moved past a lookup of another.
-/
import Gowarc.Lemmas.CanonLemmas
namespace Gowarc.Names

theorem canon_CL : canon (bs "Content-Length") = bs "Content-Length" := canon_of_table (by decide +kernel)
theorem canon_CT : canon (bs "Content-Type") = bs "Content-Type" := canon_of_table (by decide +kernel)
theorem canon_BD : canon (bs "WARC-Block-Digest") = bs "WARC-Block-Digest" := canon_of_table (by decide +kernel)
theorem canon_PD : canon (bs "WARC-Payload-Digest") = bs "WARC-Payload-Digest" := canon_of_table (by decide +kernel)
theorem canon_Seg : canon (bs "WARC-Segment-Number") = bs "WARC-Segment-Number" := canon_of_table (by decide +kernel)
theorem canon_ID : canon (bs "WARC-Record-ID") = bs "WARC-Record-ID" := canon_of_table (by decide +kernel)
theorem canon_CC : canon (bs "WARC-Concurrent-To") = bs "WARC-Concurrent-To" := canon_of_table (by decide +kernel)
theorem canon_Type : canon (bs "WARC-Type") = bs "WARC-Type" := canon_of_table (by decide +kernel)
theorem canon_Profile : canon (bs "WARC-Profile") = bs "WARC-Profile" := canon_of_table (by decide +kernel)
theorem canon_RefersTo : canon (bs "WARC-Refers-To") = bs "WARC-Refers-To" := canon_of_table (by decide +kernel)
theorem canon_RefersToURI : canon (bs "WARC-Refers-To-Target-URI") = bs "WARC-Refers-To-Target-URI" := canon_of_table (by decide +kernel)
theorem canon_RefersToDate : canon (bs "WARC-Refers-To-Date") = bs "WARC-Refers-To-Date" := canon_of_table (by decide +kernel)
theorem canon_Truncated : canon (bs "WARC-Truncated") = bs "WARC-Truncated" := canon_of_table (by decide +kernel)

/-- the names that are told apart below, in an order in which every pair below is ascending -/
def neKeys : List String :=
  ["WARC-Segment-Number", "Content-Length", "Content-Type", "WARC-Concurrent-To", "WARC-Block-Digest",
   "WARC-Payload-Digest", "WARC-Record-ID"]

theorem neKeys_distinct : (neKeys.map bs).Pairwise (· ≠ ·) := by decide +kernel

/-- the names at two positions of `neKeys`; evaluated once above, so that a disequality costs no evaluation of its own -/
theorem neKeys_ne (i j : Fin 7) (h : i < j := by decide) : bs (neKeys[i.1]'i.2) ≠ bs (neKeys[j.1]'j.2) := by
  have := List.pairwise_iff_getElem.1 neKeys_distinct i j ((List.length_map bs).symm ▸ i.2) ((List.length_map bs).symm ▸ j.2) h
  rwa [List.getElem_map, List.getElem_map] at this

theorem CL_ne_BD : canon (bs "Content-Length") ≠ canon (bs "WARC-Block-Digest") := by rw [canon_CL, canon_BD]; exact neKeys_ne 1 4
theorem CL_ne_PD : canon (bs "Content-Length") ≠ canon (bs "WARC-Payload-Digest") := by rw [canon_CL, canon_PD]; exact neKeys_ne 1 5
theorem BD_ne_PD : canon (bs "WARC-Block-Digest") ≠ canon (bs "WARC-Payload-Digest") := by rw [canon_BD, canon_PD]; exact neKeys_ne 4 5
theorem CT_ne_BD : canon (bs "Content-Type") ≠ canon (bs "WARC-Block-Digest") := by rw [canon_CT, canon_BD]; exact neKeys_ne 2 4
theorem CT_ne_PD : canon (bs "Content-Type") ≠ canon (bs "WARC-Payload-Digest") := by rw [canon_CT, canon_PD]; exact neKeys_ne 2 5
theorem CC_ne_BD : canon (bs "WARC-Concurrent-To") ≠ canon (bs "WARC-Block-Digest") := by rw [canon_CC, canon_BD]; exact neKeys_ne 3 4
theorem CC_ne_PD : canon (bs "WARC-Concurrent-To") ≠ canon (bs "WARC-Payload-Digest") := by rw [canon_CC, canon_PD]; exact neKeys_ne 3 5
theorem Seg_ne_CL : canon (bs "WARC-Segment-Number") ≠ canon (bs "Content-Length") := by rw [canon_Seg, canon_CL]; exact neKeys_ne 0 1
theorem Seg_ne_BD : canon (bs "WARC-Segment-Number") ≠ canon (bs "WARC-Block-Digest") := by rw [canon_Seg, canon_BD]; exact neKeys_ne 0 4
theorem Seg_ne_PD : canon (bs "WARC-Segment-Number") ≠ canon (bs "WARC-Payload-Digest") := by rw [canon_Seg, canon_PD]; exact neKeys_ne 0 5
theorem BD_ne_ID : canon (bs "WARC-Block-Digest") ≠ canon (bs "WARC-Record-ID") := by rw [canon_BD, canon_ID]; exact neKeys_ne 4 6
theorem PD_ne_ID : canon (bs "WARC-Payload-Digest") ≠ canon (bs "WARC-Record-ID") := by rw [canon_PD, canon_ID]; exact neKeys_ne 5 6
theorem Seg_ne_ID : canon (bs "WARC-Segment-Number") ≠ canon (bs "WARC-Record-ID") := by rw [canon_Seg, canon_ID]; exact neKeys_ne 0 6

end Gowarc.Names
