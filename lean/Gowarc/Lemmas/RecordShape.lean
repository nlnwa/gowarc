/-
  The shape of `unmarshal` and `build` around their monadic parts, shared by every theorem that follows one or two runs
  of them. Unmarshal skips junk up to the magic bytes and refuses it under syn = fail (`unmarshal_cases`); `atMagic` is
  what it does from there (`atMagic_plain`, `atMagic_gzip`), and a relation that holds of the immediate errors and of
  `unmarshalAfterMagic`, and that `gzFinish` respects, holds of `atMagic` (`atMagic_rel`). Build completes the header
  (`builderHdr`) and runs `buildBody` on it.
-/
import Gowarc.Lemmas.MonadLemmas
namespace Gowarc
variable (H : Alg → Bytes → Bytes)

/-- Unmarshal once it stands at the magic bytes `a`, having skipped `off` bytes and collected the findings `f0` -/
def atMagic (o : Opts) (Ω : Oracles) (off : Nat) (f0 : List Tag) (a : Bytes) (fault : Bool) : URes :=
  if a.take 2 == [0x1f, 0x8b] then
    match Ω.gz a with
    | none => ⟨none, off, f0, some .other, []⟩
    | some (.inl t) => ⟨none, off, f0, some t, []⟩
    | some (.inr (content, bad, consumed)) =>
      if content.length < 5 then ⟨none, off, f0, some (if content.isEmpty && !bad then .eof else .reader), []⟩
      else if content.take 5 != bs "WARC/" then ⟨none, off, f0, some .versionMissing, []⟩
      else gzFinish (unmarshalAfterMagic H o Ω off f0 ⟨content.drop 5, bad⟩) bad (a.drop consumed)
  else unmarshalAfterMagic H o Ω off f0 ⟨a.drop 5, fault⟩

/-! what draining the gzip member leaves of the outcome: the findings; an error if there was one or the member is damaged;
    the stream behind the member if there is no error -/

theorem gzFinish_fnd (r : URes) (bad : Bool) (rest : Bytes) : (gzFinish r bad rest).fnd = r.fnd := by
  unfold gzFinish; split
  · rfl
  · split <;> rfl

theorem gzFinish_err (r : URes) (bad : Bool) (rest : Bytes) : (gzFinish r bad rest).err.isSome = (r.err.isSome || bad) := by
  unfold gzFinish; cases hx : r.err <;> cases bad <;> simp [hx]

theorem gzFinish_rest {r : URes} {bad : Bool} {rest : Bytes} (h : (gzFinish r bad rest).err = none) :
    (gzFinish r bad rest).rest = rest := by
  obtain ⟨rc, of, fd, er, rs⟩ := r
  cases er with
  | some e => cases h
  | none =>
    cases bad with
    | false => rfl
    | true => cases h

section
variable {o : Opts} {Ω : Oracles} {off : Nat} {f0 : List Tag} {a : Bytes} {fault : Bool}

/-- a plain record: the record reader behind the five magic bytes -/
theorem atMagic_plain (hm : a.take 2 ≠ [0x1f, 0x8b]) :
    atMagic H o Ω off f0 a fault = unmarshalAfterMagic H o Ω off f0 ⟨a.drop 5, fault⟩ := by
  rw [atMagic, if_neg (by simpa using hm)]

/-- a gzip member whose content starts with the record magic: the record reader on the content, then the member is drained -/
theorem atMagic_member {content : Bytes} {bad : Bool} {consumed : Nat} (hm : a.take 2 = [0x1f, 0x8b])
    (hv : Ω.gz a = some (.inr (content, bad, consumed))) (h5 : content.take 5 = bs "WARC/") :
    atMagic H o Ω off f0 a fault = gzFinish (unmarshalAfterMagic H o Ω off f0 ⟨content.drop 5, bad⟩) bad (a.drop consumed) := by
  have hl : ¬ content.length < 5 := by have := congrArg List.length h5; simp [bs] at this; omega
  simp only [atMagic, hm, beq_self_eq_true, hv, hl, h5, bne_self_eq_false, Bool.false_eq_true, ↓reduceIte]

end

/-- at a gzip member: an error that the decoder's verdict alone decides (no content, too short, not a record), or
    `atMagic_member` -/
theorem atMagic_gzip (Ω : Oracles) {a : Bytes} (fault : Bool) (hm : a.take 2 = [0x1f, 0x8b]) :
    (∃ t, ∀ o off f0, atMagic H o Ω off f0 a fault = ⟨none, off, f0, some t, []⟩) ∨
    ∃ content bad consumed, Ω.gz a = some (.inr (content, bad, consumed)) ∧ ∀ o off f0,
      atMagic H o Ω off f0 a fault = gzFinish (unmarshalAfterMagic H o Ω off f0 ⟨content.drop 5, bad⟩) bad (a.drop consumed) := by
  cases hv : Ω.gz a with
  | none => exact .inl ⟨.other, fun o off f0 => by simp only [atMagic, hm, beq_self_eq_true, hv, ↓reduceIte]⟩
  | some v =>
    obtain t | ⟨content, bad, consumed⟩ := v
    · exact .inl ⟨t, fun o off f0 => by simp only [atMagic, hm, beq_self_eq_true, hv, ↓reduceIte]⟩
    · by_cases hl : content.length < 5
      · exact .inl ⟨if content.isEmpty && !bad then .eof else .reader, fun o off f0 => by
          simp only [atMagic, hm, beq_self_eq_true, hv, hl, ↓reduceIte]⟩
      · by_cases h5 : content.take 5 = bs "WARC/"
        · exact .inr ⟨content, bad, consumed, rfl, fun o off f0 => atMagic_member H hm hv h5⟩
        · exact .inl ⟨.versionMissing, fun o off f0 => by
            simp only [atMagic, hm, beq_self_eq_true, hv, hl, bne_iff_ne, ne_eq, h5, not_false_eq_true, ↓reduceIte]⟩

theorem unmarshal_eq (o : Opts) (Ω : Oracles) (s : Stream) :
    unmarshal H o Ω s =
      match skipJunk (s.rest.length + 1) s.rest 0 with
      | .inl off =>
        if o.syn == .fail && off > 0 then ⟨none, 0, [], some .synStart, s.rest⟩ else ⟨none, off, [], some (endTag s.fault), []⟩
      | .inr (off, a) =>
        if o.syn == .fail && off > 0 then ⟨none, 0, [], some .synStart, s.rest⟩
        else atMagic H o Ω off (if o.syn != .ignore && off != 0 then [.synJunk] else []) a s.fault := by
  rfl

/-- Unmarshal behind `off` bytes of junk that it does not refuse -/
theorem unmarshal_of_skip {o : Opts} {Ω : Oracles} {s : Stream} {off : Nat} {a : Bytes}
    (hsk : skipJunk (s.rest.length + 1) s.rest 0 = .inr (off, a)) (hoff : o.syn = .fail → off = 0) :
    unmarshal H o Ω s = atMagic H o Ω off (if o.syn != .ignore && off != 0 then [.synJunk] else []) a s.fault := by
  rw [unmarshal_eq, hsk]
  refine if_neg fun hr => ?_
  simp only [Bool.and_eq_true, beq_iff_eq, decide_eq_true_eq] at hr
  have := hoff hr.1
  omega

/-- the outcomes of Unmarshal: an error without findings (nothing but junk, or junk refused), or `unmarshal_of_skip` -/
theorem unmarshal_cases (o : Opts) (Ω : Oracles) (s : Stream) :
    (∃ off t rest, unmarshal H o Ω s = ⟨none, off, [], some t, rest⟩) ∨
    ∃ off a, skipJunk (s.rest.length + 1) s.rest 0 = .inr (off, a) ∧ (o.syn = .fail → off = 0) := by
  rw [unmarshal_eq]
  cases skipJunk (s.rest.length + 1) s.rest 0 with
  | inl off => exact .inl (by dsimp only; split <;> exact ⟨_, _, _, rfl⟩)
  | inr p =>
    obtain ⟨off, a⟩ := p
    by_cases hr : (o.syn == .fail && decide (off > 0)) = true
    · exact .inl ⟨_, _, _, if_pos hr⟩
    · exact .inr ⟨off, a, rfl, fun hs => by simpa [hs] using hr⟩

theorem skipJunk_at_magic (a : Bytes) (hm : isMagic a = true) (hl : 5 ≤ a.length) : skipJunk (a.length + 1) a 0 = .inr (0, a) := by
  rw [skipJunk, if_neg (by omega), if_pos hm]

theorem unmarshal_at_magic (o : Opts) (Ω : Oracles) (a : Bytes) (fault : Bool) (hm : isMagic a = true) (hl : 5 ≤ a.length) :
    unmarshal H o Ω ⟨a, fault⟩ = atMagic H o Ω 0 [] a fault := by
  rw [unmarshal_eq, skipJunk_at_magic a hm hl]
  simp

theorem unmarshal_plain_start (o : Opts) (Ω : Oracles) (x : Bytes) (fault : Bool) :
    unmarshal H o Ω ⟨bs "WARC/" ++ x, fault⟩ = unmarshalAfterMagic H o Ω 0 [] ⟨x, fault⟩ := by
  rw [unmarshal_at_magic H o Ω _ fault (by simp [isMagic, bs, List.take]) (by simp [bs]), atMagic_plain H (by simp [bs])]
  simp [bs]

/-- the outcome Unmarshal makes of the run of its monadic part -/
def URes.ofRun (off : Nat) : Except Tag (Option Rec × Bytes) × St → URes
  | (.ok (r, rest), st) => ⟨r, off, st.fnd, none, rest⟩
  | (.error t, st) => ⟨none, off, st.fnd, some t, []⟩

@[simp] theorem URes.ofRun_fnd (off : Nat) (x : Except Tag (Option Rec × Bytes) × St) : (URes.ofRun off x).fnd = x.2.fnd := by
  obtain ⟨r, st⟩ := x; cases r <;> rfl
@[simp] theorem URes.ofRun_err (off : Nat) (x : Except Tag (Option Rec × Bytes) × St) : (URes.ofRun off x).err.isSome = exErr x.1 := by
  obtain ⟨r, st⟩ := x; cases r <;> rfl

theorem unmarshalAfterMagic_eq (o : Opts) (Ω : Oracles) (off : Nat) (f0 : List Tag) (after : Stream) :
    unmarshalAfterMagic H o Ω off f0 after =
      if !(readBytesNL after.rest).2.2 then ⟨none, off, f0, some (endTag after.fault), []⟩
      else .ofRun off (unmarshalBody H o Ω ⟨(readBytesNL after.rest).2.1, after.fault⟩ (readBytesNL after.rest).1 ⟨[], f0⟩) := by
  unfold unmarshalAfterMagic
  split
  · rfl
  · cases unmarshalBody H o Ω _ _ _ with
    | mk r st => cases r <;> rfl

/-- two runs from the same magic bytes (other options, other junk in front): what holds of the errors met before the
    record is read and of the outcome made of the two runs of `unmarshalBody`, and survives the draining of the gzip
    member, holds of the outcomes -/
theorem atMagic_rel {R : URes → URes → Prop} (o₁ o₂ : Opts) (Ω : Oracles) (off₁ off₂ : Nat) (f₁ f₂ : List Tag) (a : Bytes) (fault : Bool)
    (herr : ∀ t, R ⟨none, off₁, f₁, some t, []⟩ ⟨none, off₂, f₂, some t, []⟩)
    (hbody : ∀ s vl, R (.ofRun off₁ (unmarshalBody H o₁ Ω s vl ⟨[], f₁⟩)) (.ofRun off₂ (unmarshalBody H o₂ Ω s vl ⟨[], f₂⟩)))
    (hgz : ∀ r₁ r₂ bad rest, R r₁ r₂ → R (gzFinish r₁ bad rest) (gzFinish r₂ bad rest)) :
    R (atMagic H o₁ Ω off₁ f₁ a fault) (atMagic H o₂ Ω off₂ f₂ a fault) := by
  have hafter : ∀ after, R (unmarshalAfterMagic H o₁ Ω off₁ f₁ after) (unmarshalAfterMagic H o₂ Ω off₂ f₂ after) := fun after => by
    rw [unmarshalAfterMagic_eq, unmarshalAfterMagic_eq]
    split
    · exact herr _
    · exact hbody _ _
  by_cases hm : a.take 2 = [0x1f, 0x8b]
  · obtain ⟨t, ht⟩ | ⟨content, bad, consumed, -, hrun⟩ := atMagic_gzip H Ω fault hm
    · rw [ht, ht]; exact herr t
    · rw [hrun, hrun]; exact hgz _ _ _ _ (hafter _)
  · rw [atMagic_plain H hm, atMagic_plain H hm]; exact hafter _

/-- the header Build validates: the caller's, with a missing record id and a missing Content-Length added -/
def builderHdr (o : Opts) (hdr : Fields) (c id : Bytes) : Fields :=
  if o.addMissingContentLength &&
      !(if o.addMissingRecordId && !hdr.has (bs "WARC-Record-ID") then hdr.setId (bs "WARC-Record-ID") id else hdr).has (bs "Content-Length") then
    setInt (if o.addMissingRecordId && !hdr.has (bs "WARC-Record-ID") then hdr.setId (bs "WARC-Record-ID") id else hdr) (bs "Content-Length") c.length
  else if o.addMissingRecordId && !hdr.has (bs "WARC-Record-ID") then hdr.setId (bs "WARC-Record-ID") id else hdr

/-- Build added the Content-Length itself -/
def builderAddsCL (o : Opts) (hdr : Fields) (id : Bytes) : Bool :=
  o.addMissingContentLength &&
    !(if o.addMissingRecordId && !hdr.has (bs "WARC-Record-ID") then hdr.setId (bs "WARC-Record-ID") id else hdr).has (bs "Content-Length")

/-- the outcome Build makes of the run of its monadic part -/
def BRes.ofRun : Except Tag Rec × St → BRes
  | (.ok r, st) => ⟨some r, st.fnd, none⟩
  | (.error t, st) => ⟨none, st.fnd, some t⟩

@[simp] theorem BRes.ofRun_fnd (x : Except Tag Rec × St) : (BRes.ofRun x).fnd = x.2.fnd := by
  obtain ⟨r, st⟩ := x; cases r <;> rfl
@[simp] theorem BRes.ofRun_err (x : Except Tag Rec × St) : (BRes.ofRun x).err.isSome = exErr x.1 := by
  obtain ⟨r, st⟩ := x; cases r <;> rfl
theorem BRes.ofRun_ok {x : Except Tag Rec × St} {r : Rec} (hr : (BRes.ofRun x).record = some r) : x.1 = .ok r := by
  obtain ⟨r', st⟩ := x; cases r' <;> simp_all [BRes.ofRun]

theorem build_eq (o : Opts) (Ω : Oracles) (vt : Bytes) (vi rt0 : Nat) (hdr : Fields) (c id : Bytes) :
    build H o Ω vt vi rt0 hdr c id =
      .ofRun (buildBody H o Ω vt vi rt0 (builderAddsCL o hdr id) c ⟨builderHdr o hdr c id, []⟩) := by
  have : ∀ x : Except Tag Rec × St, (match x with
      | (.ok r, st) => (⟨some r, st.fnd, none⟩ : BRes)
      | (.error t, st) => ⟨none, st.fnd, some t⟩) = BRes.ofRun x := by
    rintro ⟨r | r, st⟩ <;> rfl
  exact this _

end Gowarc
