/-
  The file list of the sequential writer model (Model/Writer.lean): what `modFile` does to ids, to membership and to a
  list whose last file is the one addressed, and `Ordered` (the ids are 1..n, so the last file is found by its id).
-/
import Gowarc.Model.Writer
namespace Gowarc.SW

theorem modFile_ids (fs : List WFile) (id : Nat) (g : WFile → WFile) (hg : ∀ f, (g f).id = f.id) :
    (modFile fs id g).map (·.id) = fs.map (·.id) := by
  unfold modFile
  rw [List.map_map]
  apply List.map_congr_left
  intro f _
  simp only [Function.comp]
  split
  · exact hg f
  · rfl

theorem mem_modFile (fs : List WFile) (id : Nat) (g : WFile → WFile) (f' : WFile) :
    f' ∈ modFile fs id g ↔ ∃ f ∈ fs, f' = if f.id == id then g f else f := by
  simp only [modFile, List.mem_map, eq_comm]

theorem modFile_other (fs : List WFile) (id : Nat) (g : WFile → WFile) (f : WFile) (hf : f ∈ fs) (hne : f.id ≠ id) :
    f ∈ modFile fs id g :=
  (mem_modFile ..).2 ⟨f, hf, by simp [hne]⟩

theorem modFile_append_last {fs : List WFile} {l : WFile} (g : WFile → WFile) (hne : ∀ f ∈ fs, f.id ≠ l.id) :
    modFile (fs ++ [l]) l.id g = fs ++ [g l] := by
  unfold modFile
  rw [List.map_append]
  congr 1
  · conv => rhs; rw [← List.map_id fs]
    apply List.map_congr_left
    intro f hf
    have : (f.id == l.id) = false := by simp [hne f hf]
    simp [this]
  · simp

/-- a file list whose ids are 1 … n in order -/
def Ordered (fs : List WFile) (n : Nat) : Prop := fs.map (·.id) = List.range' 1 n

theorem Ordered.mem_le {fs : List WFile} {n : Nat} (h : Ordered fs n) {f : WFile} (hf : f ∈ fs) : 1 ≤ f.id ∧ f.id ≤ n := by
  have : f.id ∈ fs.map (·.id) := List.mem_map_of_mem hf
  rw [h, List.mem_range'_1] at this
  omega

theorem Ordered.snoc {fs : List WFile} {n : Nat} (h : Ordered fs n) {l : WFile} (hl : l.id = n + 1) : Ordered (fs ++ [l]) (n + 1) := by
  unfold Ordered at *
  rw [List.map_append, h, List.range'_1_concat]
  simp [hl]; omega

theorem Ordered.last {fs : List WFile} {n : Nat} (h : Ordered fs n) (hpos : 0 < n) :
    ∃ init l, fs = init ++ [l] ∧ l.id = n ∧ ∀ f ∈ init, f.id ≠ l.id := by
  obtain ⟨k, rfl⟩ : ∃ k, n = k + 1 := ⟨n - 1, by omega⟩
  unfold Ordered at h
  rw [List.range'_1_concat, List.map_eq_append_iff] at h
  obtain ⟨init, l2, rfl, h1, h2⟩ := h
  obtain ⟨l, rfl, hl⟩ := List.map_eq_singleton_iff.mp h2
  refine ⟨init, l, rfl, by omega, fun f hf => ?_⟩
  have := Ordered.mem_le h1 hf
  omega

theorem fileSize_append_last {fs : List WFile} (l : WFile) (hne : ∀ f ∈ fs, f.id ≠ l.id) :
    fileSize (fs ++ [l]) l.id = l.size := by
  unfold fileSize
  have : fs.find? (fun f => f.id == l.id) = none := by
    rw [List.find?_eq_none]
    intro f hf
    simp [hne f hf]
  simp [this]

theorem content_append_member (f : WFile) (m : Member) :
    ({ f with members := f.members ++ [m] } : WFile).content = f.content ++ m.bytes := by
  simp [WFile.content]

end Gowarc.SW
