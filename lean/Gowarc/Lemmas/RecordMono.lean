/-
  Monotone rejection, record level: every step of header validation and block parsing under a pointwise more lenient
  policy setting returns the same value as under the stricter one whenever the stricter one returns at all.
-/
import Gowarc.Lemmas.MonoPol
import Gowarc.Lemmas.Inversion
namespace Gowarc

theorem wfFinish_run (blk : Pol) (fixWf : Bool) (c : Bytes) (bd : Digest) (fs : Fields) (f : List Tag) (st : Stream) (s : St)
    (hb : blk = .fail → f = []) :
    ∃ s', wfFinish blk fixWf c bd (.ok fs f st) s = (.ok (wfBlockOf fixWf c bd fs f), s') ∧ s'.hdr = s.hdr := by
  rw [wfFinish_eq]
  simp only [M.bind_def, ParseRes.findings]
  cases blk with
  | ignore => exact ⟨s, rfl, rfl⟩
  | warn => exact ⟨_, rfl, rfl⟩
  | fail => rw [hb rfl]; exact ⟨s, rfl, rfl⟩

/-- whichever syntax policy accepted the block, what WithFixWarcFieldsBlockErrors leaves behind is decided by the findings
    of the WARN parse: a reporting policy has them at hand, `ignore` obtains them by its second, detecting parse -/
theorem wfBlock_eq_warn (fixWf : Bool) (bd : Digest) {c : Bytes} {fs : Fields} {f fw : List Tag} {st : Stream} {p : Pol}
    (hres : parseFields p ⟨c, false⟩ = .ok fs f st) (hw : parseFields .warn ⟨c, false⟩ = .ok fs fw st) :
    (if (fixWf && p == Pol.ignore) = true then wfDetectFix c (wfBlockOf fixWf c bd fs f) else wfBlockOf fixWf c bd fs f) =
      wfBlockOf fixWf c bd fs fw := by
  cases p with
  | warn => rw [hres] at hw; cases hw; simp
  | fail =>
    obtain ⟨fw', hw', hn⟩ := parseFields_le (pL := .warn) rfl hres
    have hf : f = [] := parseFields_ok_nofind hres (by decide)
    rw [hw] at hw'; cases hw'
    simp [hf, hn hf]
  | ignore =>
    obtain rfl : f = [] := parseFields_ok_nofind hres (by decide)
    cases fixWf with
    | false => simp [wfBlockOf]
    | true => cases fw <;> simp [wfDetectFix, hres, hw, wfBlockOf]

/-- the block WithFixWarcFieldsBlockErrors leaves behind does not depend on the syntax policy that accepted it -/
theorem wfDetect_agree (fixWf : Bool) (c : Bytes) (bd : Digest) (fs : Fields) (fL fS : List Tag) (st : Stream) (pL pS : Pol)
    (hsyn : pL.le pS = true)
    (hresL : parseFields pL ⟨c, false⟩ = .ok fs fL st) (hres : parseFields pS ⟨c, false⟩ = .ok fs fS st) (hn : fS = [] → fL = []) :
    (if (fixWf && pL == Pol.ignore) = true then wfDetectFix c (wfBlockOf fixWf c bd fs fL) else wfBlockOf fixWf c bd fs fL) =
    (if (fixWf && pS == Pol.ignore) = true then wfDetectFix c (wfBlockOf fixWf c bd fs fS) else wfBlockOf fixWf c bd fs fS) := by
  by_cases hS : pS = .ignore
  · -- then the lenient policy is `ignore` as well
    have hL : pL = .ignore := by cases pL <;> simp_all [Pol.le]
    subst hS hL
    rw [hres] at hresL; cases hresL; rfl
  · obtain ⟨fw, hw, _⟩ := parseFields_le (pL := .warn) (by cases pS <;> simp_all [Pol.le]) hres
    rw [wfBlock_eq_warn fixWf bd hresL hw, wfBlock_eq_warn fixWf bd hres hw]

/-- the consumer of the two inner parses, with what is made of its block afterwards (`gL`, `gS`): the two blocks may differ
    in the findings they were made from, what is made of them may not -/
theorem wfFinish_rel {bL bS : Pol} (hblk : bL.le bS = true) (fixWf : Bool) (c : Bytes) (bd : Digest) {resL resS : ParseRes}
    {gL gS : Block → Block}
    (hres : ∀ fs fS st, resS = .ok fs fS st → ∃ fL, resL = .ok fs fL st ∧ (fS = [] → fL = []) ∧
      gL (wfBlockOf fixWf c bd fs fL) = gS (wfBlockOf fixWf c bd fs fS)) :
    Mono (wfFinish bL fixWf c bd resL >>= fun b => pure (gL b)) (wfFinish bS fixWf c bd resS >>= fun b => pure (gS b)) := by
  constructor
  intro sL sS hP b sS' hS
  obtain ⟨_, t2, hw, hS⟩ := bind_ok hS
  obtain ⟨rfl, rfl⟩ := pure_ok hS
  obtain ⟨fs, fS, st, rfl, rfl, hf, hh⟩ := wfFinish_ok hw
  obtain ⟨fL, rfl, hn, hg⟩ := hres fs fS st rfl
  -- a strict block axis at fail saw no finding, so neither does the lenient one
  obtain ⟨sL', hrun, hhL⟩ := wfFinish_run bL fixWf c bd fs fL st sL fun hLb => hn (hf (Pol.fail_of_le hblk hLb))
  exact ⟨sL', by simp only [M.bind_def, hrun, M.pure_def, hg], by rw [hhL, hh, hP]⟩

/-- the only thing ValidateDigest reads from the header once Content-Length has been checked -/
def SegR (hL hS : Fields) : Prop := hL.has (bs "WARC-Segment-Number") = hS.has (bs "WARC-Segment-Number")

/-- a `Set` of another field on either side, under whatever conditions, is invisible to `SegR` -/
theorem segR_sets {cL cS : Bool} {hL hS : Fields} {f vL vS : Bytes} (hf : canon (bs "WARC-Segment-Number") ≠ canon f)
    (h : SegR hL hS) : SegR (if cL then hL.set f vL else hL) (if cS then hS.set f vS else hS) :=
  ((has_setIf_other hf).trans h).trans (has_setIf_other hf).symm

variable (o : Opts) (Ω : Oracles) (L S : Pols) (hle : Pols.le L S)
include hle

theorem validateHeader_mono (v : Nat) : Mono (validateHeader (o.withPol L) Ω v) (validateHeader (o.withPol S) Ω v) := by
  rw [validateHeader_eq, validateHeader_eq]
  exact .bind .hdr fun _ => .bind (.report _ _ _ hle.spec) fun _ => .bind (.report _ _ _ hle.unk) fun _ =>
    .bind (.report _ _ _ hle.spec) fun _ => .pure _

omit hle in
theorem digestFromField_mono (f : Bytes) : Mono (digestFromField (o.withPol L) f) (digestFromField (o.withPol S) f) := by
  refine .bind .hdr fun h => ?_
  -- `Opts.withPol` is reducible: the options other than the policies are those of `o` on both sides
  generalize (if h.has f then newDigest (h.get f) o.defaultEnc else newDigest o.defaultAlg o.defaultEnc) = x
  cases x
  · exact .failS _ _
  · exact .pure _

theorem newHttpBlock_mono (c : Bytes) (bd pd : Digest) :
    Mono (newHttpBlock (o.withPol L) Ω c bd pd) (newHttpBlock (o.withPol S) Ω c bd pd) :=
  .bind (.condFail _ _) fun _ => .bind (.condSite _ _ _ _ hle.syn) fun _ => .bind .hdr fun _ => .bind (.setHdr _) fun _ =>
  .bind (.condSite _ _ _ _ hle.blk) fun _ => .pure _

theorem newWarcFieldsBlock_mono (c : Bytes) (fault : Bool) (bd : Digest) :
    Mono (newWarcFieldsBlock (o.withPol L) c fault bd) (newWarcFieldsBlock (o.withPol S) c fault bd) :=
  .bind (.condSite _ _ _ _ hle.syn) fun _ => wfFinish_rel hle.blk _ c bd fun fs fS st hres =>
    let ⟨fL, hresL, hn⟩ := parseFields_le hle.syn hres
    ⟨fL, hresL, hn, wfDetect_agree _ c bd fs fL fS st L.syn S.syn hle.syn hresL hres hn⟩

theorem parseBlock_mono (rt : Nat) (c : Bytes) (fault : Bool) :
    Mono (parseBlock (o.withPol L) Ω rt c fault) (parseBlock (o.withPol S) Ω rt c fault) :=
  .bind (digestFromField_mono o L S _) fun _ => .bind (digestFromField_mono o L S _) fun _ => .bind .hdr fun _ =>
  .ite (fun _ => newHttpBlock_mono o Ω L S hle _ _ _) fun _ => .ite (fun _ => .ite (fun _ => .failS _ _) fun _ => .pure _) fun _ =>
  .ite (fun _ => newWarcFieldsBlock_mono o L S hle _ _ _) fun _ => .pure _

variable (H : Alg → Bytes → Bytes)

theorem checkDigest_rel {f : Bytes} {t : Tag} {d : Digest} {data : Bytes} (hf : canon (bs "WARC-Segment-Number") ≠ canon f) :
    Rel SegR SegR (checkDigest H (o.withPol L) f t d data) (checkDigest H (o.withPol S) f t d data) := by
  unfold checkDigest
  simp only [condSite_guard]
  exact .hdrDep fun _ _ hP => .ite (fun _ => .setHdr' (segR_sets hf hP)) fun _ =>
    .bind (Q := SegR) (.condSite _ _ _ _ hle.spec) fun _ => .modify fun _ _ hP' => segR_sets hf hP'

theorem validateDigest_rel (rt : Nat) (b : Block) (fault : Bool) :
    Rel Eq SegR (validateDigest H (o.withPol L) rt b fault) (validateDigest H (o.withPol S) rt b fault) := by
  unfold validateDigest
  simp only [lengthBad, Bool.and_assoc, condSite_guard]
  -- Content-Length is repaired only where the mismatch is reported, so under warn and not under ignore: from this `Set`
  -- on the two headers may differ, and `SegR` keeps the one fact the remaining steps read from them
  refine .bind (.condFail _ _) fun _ => .bind .hdr fun _ => .bind (Q := Eq) (.condSite _ _ _ _ hle.spec) fun _ =>
    .bind .hdr fun _ => .bind (Q := SegR) (.setHdr' (segR_sets Names.Seg_ne_CL rfl)) fun _ =>
    .bind (checkDigest_rel o L S hle H Names.Seg_ne_BD) fun _ => .hdrDep fun hL hS hP => ?_
  -- the payload digest is looked at unless the record is a revisit or a segment: the same on both sides
  rw [show hL.has (bs "WARC-Segment-Number") = hS.has _ from hP]
  exact .ite (fun _ => .pure ()) fun _ => by
    cases b.payloadDigest with
    | none => exact .pure ()
    | some pd => exact checkDigest_rel o L S hle H Names.Seg_ne_PD

theorem versionOf_rel {P : Fields → Fields → Prop} (txt : Bytes) : Rel P P (versionOf (o.withPol L) txt) (versionOf (o.withPol S) txt) := by
  unfold versionOf
  split
  · exact Rel.pure _
  · exact Rel.bind (Rel.site _ _ _ hle.spec) (fun _ => Rel.pure _)

theorem unmarshalTail_acc (vt : Bytes) (vi : Nat) (fs : Fields) (s' : Stream) :
    Acc (fun _ _ => True) (unmarshalTail H (o.withPol L) Ω vt vi fs s') (unmarshalTail H (o.withPol S) Ω vt vi fs s') :=
  .bind (Q := Eq) (.setHdr fs) fun _ => .bind (validateHeader_mono o Ω L S hle vi) fun _ => .bind .hdr fun _ =>
  .bind (parseBlock_mono o Ω L S hle _ _ _) fun _ => .bind (validateDigest_rel o L S hle H _ _ _) fun _ =>
  .bind (Q := SegR) (.condFail _ _) fun _ => .bind (Q := SegR) (.condSite _ _ _ _ hle.spec) fun _ =>
  .total _ fun _ => ⟨_, _, rfl⟩

theorem unmarshalRest_acc {vt : Bytes} {vi : Nat} {resL resS : ParseRes}
    (hres : ∀ fs fS s', resS = .ok fs fS s' → ∃ fL, resL = .ok fs fL s') :
    Acc (fun _ _ => True) (unmarshalRest H (o.withPol L) Ω vt vi resL) (unmarshalRest H (o.withPol S) Ω vt vi resS) := by
  cases resS with
  | err t f =>
    constructor
    intro sL sS _ a sS' hS
    simp [unmarshalRest] at hS
  | ok fs fS s' =>
    obtain ⟨fL, hL⟩ := hres fs fS s' rfl
    subst hL
    unfold unmarshalRest
    exact Acc.bind (Q := fun _ _ => True) (Rel.addFindings _ _) (fun _ => unmarshalTail_acc o Ω L S hle H vt vi fs s')

theorem unmarshalBody_acc (s : Stream) (vl : Bytes) :
    Acc (fun _ _ => True) (unmarshalBody H (o.withPol L) Ω s vl) (unmarshalBody H (o.withPol S) Ω s vl) :=
  .bind (Q := fun _ _ => True) (.condSite _ _ _ _ hle.syn) fun _ => .bind (Q := fun _ _ => True) (versionOf_rel o L S hle _) fun _ =>
  unmarshalRest_acc o Ω L S hle H fun _ _ _ hS =>
    (parseFields_le hle.syn hS).imp fun _ h => h.1

theorem atMagic_mono (off : Nat) (fL fS : List Tag) (a : Bytes) (fault : Bool)
    (h : (atMagic H (o.withPol S) Ω off fS a fault).err = none) : (atMagic H (o.withPol L) Ω off fL a fault).err = none := by
  -- in the contrapositive, which is what `gzFinish` respects: an error under `L` is an error under `S`
  refine Option.not_isSome_iff_eq_none.mp <| mt ?_ (Option.not_isSome_iff_eq_none.mpr h)
  refine atMagic_rel H (R := fun rL rS => rL.err.isSome = true → rS.err.isSome = true) _ _ Ω off off fL fS a fault (fun _ => id)
    (fun _ _ => ?_) fun rL rS bad rest hr => ?_
  · rw [URes.ofRun_err, URes.ofRun_err]
    exact (unmarshalBody_acc o Ω L S hle H _ _).err trivial
  · rw [gzFinish_err, gzFinish_err, Bool.or_eq_true, Bool.or_eq_true]
    exact Or.imp_left hr

/-- **Unmarshal**: whatever a setting accepts, every pointwise more lenient setting accepts -/
theorem unmarshal_mono (s : Stream) (h : (unmarshal H (o.withPol S) Ω s).err = none) :
    (unmarshal H (o.withPol L) Ω s).err = none := by
  obtain ⟨off, t, rest, hu⟩ | ⟨off, a, hsk, hoff⟩ := unmarshal_cases H (o.withPol S) Ω s
  · rw [hu] at h; cases h
  · -- junk the strict setting does not refuse the lenient one does not refuse
    rw [unmarshal_of_skip H hsk hoff] at h
    rw [unmarshal_of_skip H hsk fun hL => hoff (Pol.fail_of_le hle.syn hL)]
    exact atMagic_mono o Ω L S hle H off _ _ a s.fault h

/-- **Build**: whatever a setting accepts, every pointwise more lenient setting accepts -/
theorem build_mono (vt : Bytes) (vi rt0 : Nat) (hdr : Fields) (c id : Bytes)
    (h : (build H (o.withPol S) Ω vt vi rt0 hdr c id).err = none) : (build H (o.withPol L) Ω vt vi rt0 hdr c id).err = none := by
  have hacc : Acc Eq (buildBody H (o.withPol L) Ω vt vi rt0 (builderAddsCL o hdr id) c)
      (buildBody H (o.withPol S) Ω vt vi rt0 (builderAddsCL o hdr id) c) :=
    .bind (validateHeader_mono o Ω L S hle vi) fun _ => .bind (parseBlock_mono o Ω L S hle _ c false) fun _ =>
    .bind .hdr fun _ => .bind (.setHdr _) fun _ => .bind (validateDigest_rel o L S hle H _ _ false) fun _ =>
    .total _ fun s => ⟨_, _, rfl⟩
  rw [build_eq, ← Option.not_isSome_iff_eq_none, BRes.ofRun_err] at h ⊢
  exact mt (hacc.err rfl) h

end Gowarc
