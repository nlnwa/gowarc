import Gowarc.Lemmas.Preserves
import Gowarc.Lemmas.RecordShape
import Gowarc.Lemmas.ParserStep
namespace Gowarc

/-! ## Findings are only ever produced under `warn`

`NoFind m`: the computation never adds a finding (whatever it returns). It is `Preserves` read for the invariants "the
findings are `f`" (`NoFind.of_preserves`), and holds of Unmarshal and Build under `NoWarn o`: all findings of the model go
through `site`, `M.finding`, `M.addFindings`, and under the levels `ignore` and `fail` a site adds nothing (it does
nothing, or returns the error). -/

structure NoFind {α} (m : M α) : Prop where
  h : ∀ s, (m s).2.fnd = s.fnd

namespace NoFind

theorem of_preserves {α} {m : M α} (h : ∀ f, Preserves (·.fnd = f) m) : NoFind m := ⟨fun s => h s.fnd s rfl⟩

theorem pure {α} (a : α) : NoFind (Pure.pure a : M α) := ⟨fun _ => rfl⟩
theorem fail {α} (t : Tag) : NoFind (M.fail t : M α) := ⟨fun _ => rfl⟩
theorem hdr : NoFind M.hdr := ⟨fun _ => rfl⟩
theorem get : NoFind M.get := ⟨fun _ => rfl⟩
theorem setHdr (h : Fields) : NoFind (M.setHdr h) := ⟨fun _ => rfl⟩
theorem addNil : NoFind (M.addFindings []) := ⟨fun s => by simp⟩

theorem condSite (c : Bool) (p : Pol) (t : Tag) (hp : p ≠ .warn) : NoFind (Gowarc.condSite c p t) :=
  of_preserves fun _ => .condSite c p t fun h => absurd h hp

theorem condFail (c : Bool) (t : Tag) : NoFind (Gowarc.condFail c t) := of_preserves fun _ => .condFail c t

end NoFind

/-- no axis is at `warn` (every mixture of ignore and fail) -/
structure NoWarn (o : Opts) : Prop where
  syn : o.syn ≠ .warn
  spec : o.spec ≠ .warn
  unk : o.unk ≠ .warn
  blk : o.blk ≠ .warn

theorem NoWarn.not_warns {o : Opts} (h : NoWarn o) : ¬ Warns o := fun w => by
  cases w with
  | syn e => exact h.syn e
  | spec e => exact h.spec e
  | unk e => exact h.unk e
  | blk e => exact h.blk e

theorem digestFromField_nofind (o : Opts) (f : Bytes) : NoFind (digestFromField o f) :=
  .of_preserves fun _ => digestFromField_preserves

theorem addFindings_of_parse_err (syn : Pol) (s : Stream) (t : Tag) (fnd : List Tag)
    (hp : parseFields syn s = .err t fnd) (hs : syn ≠ .warn) : NoFind (M.addFindings fnd) := by
  have := parseFields_nofind syn hs s
  rw [hp] at this; subst this; exact NoFind.addNil

theorem addFindings_of_parse_ok (syn : Pol) (s : Stream) (fs : Fields) (fnd : List Tag) (s' : Stream)
    (hp : parseFields syn s = .ok fs fnd s') (hs : syn ≠ .warn) : NoFind (M.addFindings fnd) :=
  parseFields_ok_nofind hp hs ▸ NoFind.addNil

variable (H : Alg → Bytes → Bytes)

section
variable {o : Opts} (h : NoWarn o)
include h

theorem unmarshalBody_nofind (Ω : Oracles) (s : Stream) (vl : Bytes) : NoFind (unmarshalBody H o Ω s vl) := by
  refine .of_preserves fun f => ?_
  have hf : Warns o → Finds (·.fnd = f) := fun w => absurd w h.not_warns
  refine .bind (.condSite _ _ _ (hf ∘ .syn)) fun _ => .bind (versionOf_preserves hf) fun _ => ?_
  have hp := parseFields_nofind o.syn h.syn s
  cases hr : parseFields o.syn s with
  | err t fnd => rw [hr] at hp; subst hp; exact .bind (.addFindings _ (absurd rfl)) fun _ => .fail _
  | ok fs fnd s' =>
    rw [hr] at hp; subst hp
    exact .bind (.addFindings _ (absurd rfl)) fun _ s hs =>
      unmarshalTail_preserves hf H (.of_fnd (· = f) o) Ω _ _ _ _ s hs

theorem atMagic_nofind (Ω : Oracles) (off : Nat) (f0 : List Tag) (a : Bytes) (fault : Bool) :
    (atMagic H o Ω off f0 a fault).fnd = f0 := by
  exact atMagic_rel H (R := fun r _ => r.fnd = f0) o o Ω off off f0 f0 a fault (fun _ => rfl)
    (fun _ _ => (URes.ofRun_fnd _ _).trans ((unmarshalBody_nofind H h Ω _ _).h _)) (fun _ _ _ _ hr => (gzFinish_fnd _ _ _).trans hr)

/-- **no finding unless an axis is at warn** — Build -/
theorem buildBody_nofind (Ω : Oracles) (vt : Bytes) (vi rt0 : Nat) (cla : Bool) (c : Bytes) :
    NoFind (buildBody H o Ω vt vi rt0 cla c) :=
  .of_preserves fun f => buildBody_preserves (fun w => absurd w h.not_warns) H (.of_fnd (· = f) o) fun _ _ _ hs => hs

end

theorem build_nofind (o : Opts) (Ω : Oracles) (vt : Bytes) (vi rt0 : Nat) (hdr : Fields) (c id : Bytes) (h : NoWarn o) :
    (build H o Ω vt vi rt0 hdr c id).fnd = [] := by
  rw [build_eq, BRes.ofRun_fnd]
  exact (buildBody_nofind H h Ω vt vi rt0 _ c).h _

end Gowarc
