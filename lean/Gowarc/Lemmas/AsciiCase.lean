import Gowarc.Lemmas.ByteDecide
/-! ASCII case mapping, byte by byte: what `toLowerB` and `toUpperB` do to each other, to the ASCII range and to `=`.
    Facts about all 256 bytes, by evaluation; every statement about the case of an alphabet or of a header name
    is derived from these. -/
namespace Gowarc

theorem toLowerB_toUpperB : ∀ b : UInt8, toLowerB (toUpperB b) = toLowerB b := by decide +kernel
theorem toUpperB_toLowerB : ∀ b : UInt8, toUpperB (toLowerB b) = toUpperB b := by decide +kernel
theorem toLowerB_idem : ∀ b : UInt8, toLowerB (toLowerB b) = toLowerB b := by decide +kernel
theorem toUpperB_idem : ∀ b : UInt8, toUpperB (toUpperB b) = toUpperB b := by decide +kernel
theorem toLowerB_lt128 : ∀ b : UInt8, b < 128 → toLowerB b < 128 := by decide +kernel
theorem toUpperB_lt128 : ∀ b : UInt8, b < 128 → toUpperB b < 128 := by decide +kernel
theorem toUpperB_ne_pad : ∀ b : UInt8, b ≠ 61 → toUpperB b ≠ 61 := by decide +kernel

theorem lowerAscii_upperAscii (l : Bytes) : lowerAscii (upperAscii l) = lowerAscii l := by
  simp [lowerAscii, upperAscii, toLowerB_toUpperB]

theorem upperAscii_lowerAscii (l : Bytes) : upperAscii (lowerAscii l) = upperAscii l := by
  simp [lowerAscii, upperAscii, toUpperB_toLowerB]

end Gowarc
