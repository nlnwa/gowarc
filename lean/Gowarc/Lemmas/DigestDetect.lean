/-
  digest.go, detectEncoding / newDigest on a value of the right length for its algorithm: `detectEncoding` looks only at
  the algorithm, the length of the value and (for MD5) whether its last character is `=`; `newDigest` on
  `spelling:value` is determined by that verdict. The normalisations (ToLower for base16, ToUpper for base32) are the
  identity on what the encoders write.
-/
import Gowarc.Lemmas.Base16
import Gowarc.Lemmas.Base32
import Gowarc.Lemmas.Bytes
namespace Gowarc

/-! ### the normalisations on the encoders' output -/

/-- Go's ToLower / ToUpper leave a string of ASCII bytes byte-wise mapped; the UTF-8 repair of the model is the identity -/
theorem utf8Repair_ascii (l : Bytes) (h : ∀ x ∈ l, x < 128) : ∀ fuel, utf8Repair fuel l = l := by
  induction l with
  | nil => intro fuel; cases fuel <;> rfl
  | cons b rest ih =>
    intro fuel
    cases fuel with
    | zero => rfl
    | succ f => rw [utf8Repair.eq_def]; simp only [h b (by simp), ↓reduceIte, ih fun x hx => h x (by simp [hx])]

theorem hexEnc_normal (b : Bytes) (fuel : Nat) : utf8Repair fuel (lowerAscii (hexEnc b)) = hexEnc b := by
  rw [lowerAscii, List.map_congr_left (g := id) (hexEnc_all hexChar_lower b), List.map_id]
  exact utf8Repair_ascii _ (hexEnc_all hexChar_lt128 b) _

theorem b32Enc_normal (b : Bytes) (fuel : Nat) : utf8Repair fuel (upperAscii (b32Enc b)) = b32Enc b := by
  rw [upperAscii, List.map_congr_left (g := id) (b32Enc_all b32Char_upper (by decide) b), List.map_id]
  exact utf8Repair_ascii _ (b32Enc_all b32Char_lt128 (by decide) b) _

/-! ### detectEncoding, by length -/

theorem alg_name_facts : ∀ a : Alg, COLON ∉ a.name ∧ normalizeAlg a.name = a.name ∧ a.name.isEmpty = false ∧
    algOfName a.name = some a ∧ (a.name == bs "md5") = (a == .md5) := by
  intro a; cases a <;> decide +kernel

/-- on the name of an algorithm it knows, `detectEncoding` looks at the length of the value and, for the 32 characters
    that are both the base16 and the base32 of an MD5 sum, at the last character -/
theorem detectEncoding_name (a : Alg) (d : Bytes) (dflt : Enc) :
    detectEncoding a.name d dflt =
      if a = .md5 ∧ d.length = 32 then (if d.getLast? = some 61 then .b32 else .b16)
      else if d.length = a.size * 2 then .b16
      else if d.length = b32EncodedLen a.size then .b32
      else if d.length = b64EncodedLen a.size then .b64 else dflt := by
  -- the lookup finds the algorithm (`ha : algOfName a.name = some a`), the name is "md5" exactly for MD5 (`hm`); what
  -- is left of `detectEncoding` is its chain of length tests, with `==` for `=`
  obtain ⟨_, _, _, ha, hm⟩ := alg_name_facts a
  simp [detectEncoding, ha, hm]

/-- the three lengths tell the encodings of one algorithm apart, except that 16 bytes are 32 characters both ways -/
theorem enc_lengths_differ : ∀ a : Alg, (a = .md5 → b32EncodedLen a.size = 32) ∧ (a ≠ .md5 → b32EncodedLen a.size ≠ a.size * 2) ∧
    b64EncodedLen a.size ≠ 32 ∧ b64EncodedLen a.size ≠ a.size * 2 ∧ b64EncodedLen a.size ≠ b32EncodedLen a.size := by
  intro a; cases a <;> decide +kernel

theorem detect_b16 {a : Alg} {d : Bytes} {dflt : Enc} (hl : d.length = a.size * 2) (hp : d.getLast? ≠ some 61) :
    detectEncoding a.name d dflt = .b16 := by
  rw [detectEncoding_name]
  by_cases h : a = .md5 ∧ d.length = 32
  · rw [if_pos h, if_neg hp]
  · rw [if_neg h, if_pos hl]

theorem detect_b32 {a : Alg} {d : Bytes} {dflt : Enc} (hl : d.length = b32EncodedLen a.size)
    (hp : a = .md5 → d.getLast? = some 61) : detectEncoding a.name d dflt = .b32 := by
  obtain ⟨h32, hne, _⟩ := enc_lengths_differ a
  rw [detectEncoding_name]
  by_cases h : a = .md5 ∧ d.length = 32
  · rw [if_pos h, if_pos (hp h.1)]
  · rw [if_neg h, if_neg (hl ▸ hne fun e => h ⟨e, hl.trans (h32 e)⟩), if_pos hl]

theorem detect_b64 {a : Alg} {d : Bytes} {dflt : Enc} (hl : d.length = b64EncodedLen a.size) :
    detectEncoding a.name d dflt = .b64 := by
  obtain ⟨_, _, h32, h16, hb⟩ := enc_lengths_differ a
  rw [detectEncoding_name, if_neg (fun h => h32 (hl ▸ h.2)), if_neg (hl ▸ h16), if_neg (hl ▸ hb), if_pos hl]

/-! ### newDigest, through its parts -/

/-- the algorithm part and the value part of a digest field: split at the first colon, if there is one -/
def digestParts (s : Bytes) : Bytes × Bytes := (splitFirst COLON s).getD (s, [])

/-- what `newDigest` makes of a value once its encoding is decided -/
def normHash (e : Enc) (v : Bytes) : Bytes :=
  match e with
  | .b16 => utf8Repair v.length (lowerAscii v)
  | .b32 => utf8Repair v.length (upperAscii v)
  | _ => v

/-- `newDigest` after the split and the normalisation of the algorithm name -/
def digestOf (a v : Bytes) (dflt : Enc) : Option Digest :=
  if a.isEmpty then some ⟨.sha1, bs "sha1", normHash (detectEncoding a v dflt) v, detectEncoding a v dflt⟩
  else (algOfName a).map fun al => ⟨al, a, normHash (detectEncoding a v dflt) v, detectEncoding a v dflt⟩

theorem newDigest_eq (s : Bytes) (dflt : Enc) :
    newDigest s dflt = digestOf (normalizeAlg (digestParts s).1) (digestParts s).2 dflt := by
  unfold newDigest digestOf digestParts
  rcases splitFirst COLON s with _ | ⟨a, v⟩ <;> simp only [Option.getD]
  all_goals
    generalize detectEncoding _ _ dflt = e
    generalize algOfName _ = al
    cases e <;> cases al <;> rfl

theorem digestParts_colon (sp v : Bytes) (hc : COLON ∉ sp) : digestParts (sp ++ [COLON] ++ v) = (sp, v) := by
  rw [digestParts, List.append_assoc, List.singleton_append, Props.C19.splitFirst_append COLON sp v hc]; rfl

theorem normHash_encode (e : Enc) (b : Bytes) : normHash e (e.encode b) = e.encode b := by
  cases e with
  | b16 => exact hexEnc_normal b _
  | b32 => exact b32Enc_normal b _
  | unknown | b64 => rfl

theorem algOfName_name {x : Bytes} {a : Alg} (h : algOfName x = some a) : x = a.name := by
  unfold algOfName at h
  -- four names in turn: the one that answers has just been compared with `x`
  iterate 4
    split at h
    · cases h; exact eq_of_beq ‹_›
  cases h

/-! a colon survives the normalisation of an algorithm name, so a spelling of an algorithm's name has none -/

theorem colon_mem_lowerKey {l : Bytes} (h : COLON ∈ l) : COLON ∈ lowerKey l := by
  fun_induction lowerKey l with
  | case1 => exact h
  | case2 rest ih | case3 rest ih => exact List.mem_cons_of_mem _ (ih (by simpa [COLON] using h))
  | case4 b rest _ _ ih =>
    rcases List.mem_cons.1 h with rfl | h
    · exact List.mem_cons_self
    · exact List.mem_cons_of_mem _ (ih h)

theorem colon_mem_normalizeAlg {l : Bytes} (h : COLON ∈ l) : COLON ∈ normalizeAlg l := by
  have hl := colon_mem_lowerKey h
  unfold normalizeAlg
  -- the three hyphenated names have no colon, and every other name is only lower-cased
  iterate 3
    split
    · next hb => rw [eq_of_beq hb] at hl; exact absurd hl (by decide)
  exact hl

theorem digestOf_some {a v : Bytes} {dflt : Enc} {d : Digest} (h : digestOf a v dflt = some d) :
    d.name = d.alg.name ∧ d.enc = detectEncoding a v dflt ∧ d.hash = normHash d.enc v := by
  unfold digestOf at h
  split at h
  · cases h; exact ⟨rfl, rfl, rfl⟩
  · obtain ⟨al, hal, rfl⟩ := Option.map_eq_some_iff.mp h
    exact ⟨algOfName_name hal, rfl, rfl⟩

theorem newDigest_spelled {a : Alg} {sp : Bytes} (hn : normalizeAlg sp = a.name) (v : Bytes) (dflt : Enc) :
    newDigest (sp ++ [COLON] ++ v) dflt =
      some ⟨a, a.name, normHash (detectEncoding a.name v dflt) v, detectEncoding a.name v dflt⟩ := by
  obtain ⟨hc, _, hne, ha, _⟩ := alg_name_facts a
  rw [newDigest_eq, digestParts_colon sp v fun h => hc (hn ▸ colon_mem_normalizeAlg h), hn, digestOf,
    if_neg (by simp [hne]), ha]; rfl

end Gowarc
