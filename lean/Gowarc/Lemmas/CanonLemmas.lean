import Gowarc.Model.Fields
import Gowarc.Lemmas.AsciiCase
namespace Gowarc

theorem token_lt_128 : ∀ b : UInt8, isTokenByte b = true → b < 128 := by decide +kernel

theorem lowerKey_cons_ascii (b : UInt8) (rest : Bytes) (h : b < 128) :
    lowerKey (b :: rest) = toLowerB b :: lowerKey rest := by
  -- not the first byte of the Kelvin sign (E2 84 AA) or of the dotted capital I (C4 B0), which `lowerKey` takes whole
  have h1 : b ≠ 0xE2 := by intro e; subst e; exact absurd h (by decide)
  have h2 : b ≠ 0xC4 := by intro e; subst e; exact absurd h (by decide)
  rw [lowerKey.eq_def]
  split
  · contradiction
  · rename_i heq; simp at heq; exact absurd heq.1 h1
  · rename_i heq; simp at heq; exact absurd heq.1 h2
  · rename_i heq; injection heq with hb hr; subst hb hr; simp [h]

/-- one step of the loop: the byte in the case asked for; the next is upper-cased after a `-` (45) -/
theorem canonLoop_cons (up : Bool) (b : UInt8) (rest : Bytes) :
    canonLoop up (b :: rest) =
      (if up then toUpperB b else toLowerB b) :: canonLoop ((if up then toUpperB b else toLowerB b) == 45) rest := by
  rw [canonLoop]; cases up <;> simp [toUpperB, toLowerB]

theorem canonLoop_idem (up : Bool) (s : Bytes) : canonLoop up (canonLoop up s) = canonLoop up s := by
  induction s generalizing up with
  | nil => rfl
  | cons b rest ih => cases up <;> simp [canonLoop_cons, toUpperB_idem, toLowerB_idem, ih]

/-- on ASCII input the loop changes letter case only, which `lowerKey` forgets -/
theorem lowerKey_canonLoop (up : Bool) (s : Bytes) (h : ∀ b ∈ s, b < 128) : lowerKey (canonLoop up s) = lowerKey s := by
  induction s generalizing up with
  | nil => rfl
  | cons b rest ih =>
    have hb : b < 128 := h b (by simp)
    have hr := fun up => ih up fun x hx => h x (by simp [hx])
    rw [canonLoop_cons, lowerKey_cons_ascii b rest hb]
    cases up
    · rw [if_neg (by decide), lowerKey_cons_ascii _ _ (toLowerB_lt128 b hb), toLowerB_idem, hr]
    · rw [if_pos rfl, lowerKey_cons_ascii _ _ (toUpperB_lt128 b hb), toLowerB_toUpperB, hr]

/-- whether or not the result is still a token string, a second pass returns it unchanged -/
theorem canonicalHeaderKey_idem (s : Bytes) : canonicalHeaderKey (canonicalHeaderKey s) = canonicalHeaderKey s := by
  unfold canonicalHeaderKey
  split
  · split
    · exact canonLoop_idem true s
    · rfl
  · simp [*]

theorem lowerKey_canonicalHeaderKey (s : Bytes) : lowerKey (canonicalHeaderKey s) = lowerKey s := by
  unfold canonicalHeaderKey
  split
  · rename_i h
    exact lowerKey_canonLoop true s fun b hb => token_lt_128 b (List.all_eq_true.mp h b hb)
  · rfl

/-- What the proofs need of the generated field table, in one evaluation: turning the 25 names into bytes is most of the
    work of any evaluation that looks a name up, and the kernel does it once per declaration. -/
theorem fieldTable_facts :
    (Gen.fieldDefs.map (fun d => lowerAscii (bs d.name))).Nodup ∧
    Gen.fieldDefs.all (fun d => canon (bs d.name) == bs d.name) = true ∧
    Gen.fieldDefs.all (fun d => lowerKey (bs d.name) == lowerAscii (bs d.name)) = true := by decide +kernel

/-- a name of the generated field table is its own canonical form; for a concrete name the hypothesis is a search of the
    table's names, where evaluating `canon` itself also builds and compares the lower-cased keys -/
theorem canon_of_table {n : String} (h : (Gen.fieldDefs.map (·.name)).contains n = true) : canon (bs n) = bs n := by
  rw [List.contains_iff_mem, List.mem_map] at h
  obtain ⟨d, hd, rfl⟩ := h
  simpa using List.all_eq_true.mp fieldTable_facts.2.1 d hd

theorem canon_idem (n : Bytes) : canon (canon n) = canon n := by
  unfold canon
  cases h : lookupDef (lowerKey n) with
  | some d =>
    have hm : d ∈ Gen.fieldDefs := List.mem_of_find?_eq_some h
    simpa [canon] using List.all_eq_true.mp fieldTable_facts.2.1 d hm
  | none =>
    rw [lowerKey_canonicalHeaderKey, h]
    exact canonicalHeaderKey_idem n

theorem lowerKey_canon (n : Bytes) : lowerKey (canon n) = lowerKey n := by
  unfold canon
  cases h : lookupDef (lowerKey n) with
  | some d =>
    have hd := List.find?_some (p := fun d : FieldDef => lowerAscii (bs d.name) == lowerKey n) (l := Gen.fieldDefs) h
    have ht := beq_iff_eq.mp (List.all_eq_true.mp fieldTable_facts.2.2 d (List.mem_of_find?_eq_some h))
    exact ht.trans (beq_iff_eq.mp hd)
  | none => exact lowerKey_canonicalHeaderKey n

end Gowarc
