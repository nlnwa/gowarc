/-
  The header parser on a header section that was cut: for every non-empty list of clean fields and every strict prefix of
  its serialisation (field lines followed by the blank line), the parser either returns an error or returns with the stream
  used up. (It never "finds" an end of the header section inside the prefix.)
-/
import Gowarc.Props.C19pos
import Gowarc.Lemmas.Lists
namespace Gowarc
open Gowarc.Props.C19

/-- an error, or a result that has used up the stream -/
def ParseRes.endsEmpty : ParseRes → Prop
  | .err _ _ => True
  | .ok _ _ s' => s'.rest = []

/-- a stream without a line feed: one iteration, then nothing is left -/
theorem parseLoop_nolf (syn : Pol) (fuel : Nat) (wf : Fields) (fnd : List Tag) (rest : Bytes) (h : LF ∉ rest) :
    (parseLoop syn (fuel + 1) wf fnd ⟨rest, false⟩).endsEmpty := by
  -- the last, unterminated line of a stream: whatever the parser makes of it, it then stops with nothing left
  have hpr : ∀ fnd', (parseRest syn (parseLoop syn fuel) wf fnd' ⟨trim isWs rest, trimIsNil rest, 0, some .eoh, []⟩ true false).endsEmpty := by
    intro fnd'
    simp only [parseRest, contLoop_stop (show ((0 : UInt8) == SP || (0 : UInt8) == HT) = false by decide)]
    cases parseLine (trim isWs rest) with
    | inl e => cases syn with
      | fail => trivial   -- the syntax error is returned
      | warn => rfl       -- recorded or dropped, then as for a good line: `.ok` with the stream `⟨[], false⟩`
      | ignore => rfl
    | inr nv => rfl
  rw [parseLoop_succ]; unfold parseBody
  rw [readLine_nolf syn ⟨rest, false⟩ h]
  simp only [show (Tag.eoh == Tag.reader) = false by decide, Bool.false_eq_true, ↓reduceIte, beq_self_eq_true]
  split
  · rfl
  · cases syn with
    | fail => trivial
    | warn => exact hpr _
    | ignore => exact hpr _

/-- the serialised header section: field lines and the blank line -/
def headerText (fs : Fields) : Bytes := Fields.write fs ++ crlf

theorem headerText_cons (nv : Bytes × Bytes) (rest : Fields) : headerText (nv :: rest) = (lineOf nv ++ crlf) ++ headerText rest := by
  unfold headerText; rw [write_cons]; simp [List.append_assoc]

/-- **a cut header section is never taken for a complete one** -/
theorem cut_header_endsEmpty (syn : Pol) : ∀ (fs : Fields) (wf : Fields) (fuel k : Nat), fs ≠ [] → (∀ nv ∈ fs, CleanField nv) →
    fs.length + 1 ≤ fuel → k < (headerText fs).length →
    (parseLoop syn fuel wf [] ⟨(headerText fs).take k, false⟩).endsEmpty := by
  intro fs
  induction fs with
  | nil => intro _ _ _ h; exact absurd rfl h
  | cons nv rest ih =>
    intro wf fuel k _ hc hf hk
    have hnv := hc nv (by simp)
    -- the fuel covers one round per field line and one for what is left of the blank line: two at least here
    obtain ⟨f, rfl⟩ : ∃ f, fuel = f + 1 + 1 := ⟨fuel - 2, by simp at hf; omega⟩
    rw [headerText_cons] at hk ⊢
    revert k
    apply forall_take_append (P := fun p => (parseLoop syn (f + 1 + 1) wf [] ⟨p, false⟩).endsEmpty)
    · -- the cut is inside the first line: no line feed in what is left
      intro k hlt
      exact parseLoop_nolf syn (f + 1) _ _ _ (nolf_take_crlf _ k (line_nolf hnv) hlt)
    · -- the first line, and j bytes (possibly none) of what follows it
      intro j hj2
      cases rest with
      | nil =>
        -- only the blank line follows
        match j, hj2 with
        | 0, _ =>
          rw [List.take_zero, parseLoop_field_next syn (f + 1) wf [] hnv [] false rfl (fun _ => rfl)]
          exact parseLoop_nolf syn f _ _ [] (by simp)
        | 1, _ =>
          -- the cut falls between its CR and its LF: "missing end-of-fields marker"
          rw [show (headerText []).take 1 = [CR] from rfl, parseLoop_field syn (f + 1) wf [] hnv [CR] false rfl (by simp)]
          trivial
      | cons nv2 rest2 =>
        -- what is left is empty or starts with the first byte of the next name
        obtain ⟨b, more, hb, hw⟩ := write_head (hc nv2 (by simp)) rest2 crlf
        have hh : isWs (((headerText (nv2 :: rest2)).take j).headD 0) = false := by
          unfold headerText; rw [hw]; cases j with
          | zero => rfl
          | succ _ => exact hb
        rw [parseLoop_field_next syn (f + 1) wf [] hnv _ false hh (fun _ => rfl)]
        exact ih (wf ++ [nv]) (f + 1) j (by simp) (fun x hx => hc x (by simp [hx])) (by simp at hf ⊢; omega) hj2

end Gowarc
