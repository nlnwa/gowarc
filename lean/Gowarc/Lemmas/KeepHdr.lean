import Gowarc.Lemmas.Preserves
namespace Gowarc

/-! ## Validation observes: with the repair options off no step rewrites the header

`KeepHdr m` is `Preserves` read for the invariants "the header is `x`" (`KeepHdr.of_preserves`): findings never touch the
header; a `Set` does, so the option behind each `Set` must be off (`RepairsOff`). -/

structure KeepHdr {α} (m : M α) : Prop where
  h : ∀ s, (m s).2.hdr = s.hdr

theorem keep_of_eq {α} {m : M α} (hk : KeepHdr m) {s : St} {r : Except Tag α} {s' : St} (h : m s = (r, s')) :
    s'.hdr = s.hdr := by have := hk.h s; rw [h] at this; exact this

namespace KeepHdr

theorem finding (t : Tag) : KeepHdr (M.finding t) := ⟨fun _ => rfl⟩
theorem addFindings (l : List Tag) : KeepHdr (M.addFindings l) := ⟨fun _ => rfl⟩

theorem condSite (c : Bool) (p : Pol) (t : Tag) : KeepHdr (Gowarc.condSite c p t) := by
  cases c <;> cases p <;> exact ⟨fun _ => rfl⟩

theorem condFail (c : Bool) (t : Tag) : KeepHdr (Gowarc.condFail c t) := by
  cases c <;> exact ⟨fun _ => rfl⟩

end KeepHdr

theorem KeepHdr.of_preserves {α} {m : M α} (h : ∀ x, Preserves (·.hdr = x) m) : KeepHdr m := ⟨fun s => h s.hdr s rfl⟩

/-- **header validation never alters a field** (under any policy) -/
theorem validateHeader_keep (o : Opts) (Ω : Oracles) (v : Nat) : KeepHdr (validateHeader o Ω v) :=
  .of_preserves fun x => validateHeader_preserves fun _ => .of_hdr (· = x)

/-- the repair / add-missing options that may rewrite header fields are all off -/
structure RepairsOff (o : Opts) : Prop where
  fixCL : o.fixContentLength = false
  fixDig : o.fixDigest = false
  fixSyn : o.fixSyntaxErrors = false
  addDig : o.addMissingDigest = false

theorem parseBlock_keep (o : Opts) (Ω : Oracles) (rt : Nat) (c : Bytes) (fault : Bool) (h : RepairsOff o) :
    KeepHdr (parseBlock o Ω rt c fault) :=
  .of_preserves fun x => parseBlock_preserves (fun _ => .of_hdr (· = x)) (by simp [h.fixSyn])

variable (H : Alg → Bytes → Bytes)

theorem validateDigest_keep (o : Opts) (rt : Nat) (b : Block) (fault : Bool) (h : RepairsOff o) :
    KeepHdr (validateDigest H o rt b fault) :=
  .of_preserves fun x => validateDigest_preserves (fun _ => .of_hdr (· = x)) H
    (by simp [h.fixCL]) (by simp [h.addDig, h.fixDig]) (by simp [h.addDig, h.fixDig])

end Gowarc
