/-
  Findings are only ever appended, and nothing a validation step computes depends on the findings collected so far:
  running a computation from a state with extra findings in front gives the same result, the same header, and the same
  findings with that prefix in front (`Frame`). As for `Preserves`: one rule per primitive of the monad, one lemma per
  model function. `Frame.ofRun` and the lemmas after it carry this to the outcome Unmarshal makes of the run.
-/
import Gowarc.Lemmas.Report
import Gowarc.Lemmas.RecordShape
namespace Gowarc

structure Frame {α} (m : M α) : Prop where
  h : ∀ (hd : Fields) (f0 f : List Tag), m ⟨hd, f0 ++ f⟩ = ((m ⟨hd, f⟩).1, ⟨(m ⟨hd, f⟩).2.hdr, f0 ++ (m ⟨hd, f⟩).2.fnd⟩)

namespace Frame

theorem pure {α} (a : α) : Frame (Pure.pure a : M α) := ⟨fun _ _ _ => rfl⟩
theorem fail {α} (t : Tag) : Frame (M.fail t : M α) := ⟨fun _ _ _ => rfl⟩
theorem hdr : Frame M.hdr := ⟨fun _ _ _ => rfl⟩
theorem setHdr (h : Fields) : Frame (M.setHdr h) := ⟨fun _ _ _ => rfl⟩
theorem report (p : Pol) (ts : List Tag) : Frame (Gowarc.report p ts) :=
  ⟨fun _ _ _ => by
    cases p with
    | ignore => rfl
    | warn => simp [report_warn]
    | fail => rw [report_fail, report_fail]; cases ts <;> rfl⟩
theorem finding (t : Tag) : Frame (M.finding t) := finding_report t ▸ report _ _
theorem addFindings (l : List Tag) : Frame (M.addFindings l) := addFindings_report l ▸ report _ _

theorem bind {α β} {m : M α} {f : α → M β} (hm : Frame m) (hf : ∀ a, Frame (f a)) : Frame (m >>= f) := by
  constructor
  intro hd f0 fs
  simp only [M.bind_def]
  rw [hm.h hd f0 fs]
  cases hr : m ⟨hd, fs⟩ with
  | mk r s' =>
    cases r with
    | ok a =>
      simp only
      obtain ⟨h', f'⟩ := s'
      rw [(hf a).h h' f0 f']
    | error e => rfl

theorem ite {α} {c : Prop} [Decidable c] {m1 m2 : M α} (h1 : Frame m1) (h2 : Frame m2) :
    Frame (if c then m1 else m2) := by split <;> assumption

theorem site (p : Pol) (t : Tag) : Frame (Gowarc.site p t) := site_report p t ▸ report p [t]
theorem condSite (c : Bool) (p : Pol) (t : Tag) : Frame (Gowarc.condSite c p t) := ite (site p t) (pure ())
theorem condFail (c : Bool) (t : Tag) : Frame (Gowarc.condFail c t) := ite (fail t) (pure ())

end Frame

variable {H : Alg → Bytes → Bytes} {o : Opts} {Ω : Oracles}

theorem validateHeader_frame {v : Nat} : Frame (validateHeader o Ω v) := by
  rw [validateHeader_eq]
  exact .bind .hdr fun _ => .bind (.report _ _) fun _ => .bind (.report _ _) fun _ => .bind (.report _ _) fun _ => .pure _

theorem digestFromField_frame {f : Bytes} : Frame (digestFromField o f) :=
  .bind .hdr fun _ => by
    split
    · exact .pure _
    · exact .fail _

theorem newHttpBlock_frame {c : Bytes} {bd pd : Digest} : Frame (newHttpBlock o Ω c bd pd) :=
  .bind (.condFail _ _) fun _ => .bind (.condSite _ _ _) fun _ => .bind .hdr fun _ => .bind (.setHdr _) fun _ =>
  .bind (.condSite _ _ _) fun _ => .pure _

theorem wfFinish_frame {blk : Pol} {fixWf : Bool} {c : Bytes} {bd : Digest} {res : ParseRes} : Frame (wfFinish blk fixWf c bd res) := by
  rw [wfFinish_eq]
  exact .bind (.report _ _) fun _ => by
    cases res
    · exact .pure _
    · exact .fail _

theorem newWarcFieldsBlock_frame {c : Bytes} {fault : Bool} {bd : Digest} : Frame (newWarcFieldsBlock o c fault bd) :=
  .bind (.condSite _ _ _) fun _ => .bind wfFinish_frame fun _ => .pure _

theorem parseBlock_frame {rt : Nat} {c : Bytes} {fault : Bool} : Frame (parseBlock o Ω rt c fault) :=
  .bind digestFromField_frame fun _ => .bind digestFromField_frame fun _ => .bind .hdr fun _ =>
  .ite newHttpBlock_frame <| .ite (.ite (.fail _) (.pure _)) <| .ite newWarcFieldsBlock_frame (.pure _)

theorem checkDigest_frame {f : Bytes} {t : Tag} {d : Digest} {data : Bytes} : Frame (checkDigest H o f t d data) :=
  .bind .hdr fun _ => .ite (.setHdr _) (.bind (.condSite _ _ _) fun _ => .bind .hdr fun _ => .setHdr _)

theorem validateDigest_frame {rt : Nat} {b : Block} {fault : Bool} : Frame (validateDigest H o rt b fault) :=
  .bind (.condFail _ _) fun _ => .bind .hdr fun _ => .bind (.condSite _ _ _) fun _ => .bind .hdr fun _ =>
  .bind (.setHdr _) fun _ => .bind checkDigest_frame fun _ => .bind .hdr fun _ =>
  .ite (.pure _) (by
    split
    · exact checkDigest_frame
    · exact .pure _)

theorem versionOf_frame {txt : Bytes} : Frame (versionOf o txt) := by
  unfold versionOf
  split
  · exact .pure _
  · exact .bind (.site _ _) fun _ => .pure _

theorem unmarshalTail_frame {vt : Bytes} {vi : Nat} {fs : Fields} {s' : Stream} : Frame (unmarshalTail H o Ω vt vi fs s') :=
  .bind (.setHdr _) fun _ => .bind validateHeader_frame fun _ => .bind .hdr fun _ =>
  .bind parseBlock_frame fun _ => .bind validateDigest_frame fun _ => .bind (.condFail _ _) fun _ =>
  .bind (.condSite _ _ _) fun _ => .bind .hdr fun _ => .pure _

theorem unmarshalRest_frame {vt : Bytes} {vi : Nat} {res : ParseRes} : Frame (unmarshalRest H o Ω vt vi res) := by
  cases res with
  | err t fnd => exact .bind (.addFindings _) fun _ => .fail _
  | ok fs fnd s' => exact .bind (.addFindings _) fun _ => unmarshalTail_frame

theorem unmarshalBody_frame {s : Stream} {verLine : Bytes} : Frame (unmarshalBody H o Ω s verLine) :=
  .bind (.condSite _ _ _) fun _ => .bind versionOf_frame fun _ => unmarshalRest_frame

/-- the outcome Unmarshal makes of a run from the findings `f0`, in terms of the run from none -/
theorem Frame.ofRun {m : M (Option Rec × Bytes)} (hm : Frame m) (off : Nat) (hd : Fields) (f0 : List Tag) :
    URes.ofRun off (m ⟨hd, f0⟩) =
      { URes.ofRun 0 (m ⟨hd, []⟩) with offset := off, fnd := f0 ++ (URes.ofRun 0 (m ⟨hd, []⟩)).fnd } := by
  have h := hm.h hd f0 []
  rw [List.append_nil] at h
  rw [h]
  cases m ⟨hd, []⟩ with
  | mk r st => cases r <;> rfl

theorem gzFinish_frame (r : URes) (off : Nat) (f0 : List Tag) (bad : Bool) (rest : Bytes) :
    gzFinish { r with offset := off, fnd := f0 ++ r.fnd } bad rest = { gzFinish r bad rest with offset := off, fnd := f0 ++ (gzFinish r bad rest).fnd } := by
  unfold gzFinish
  cases he : r.err with
  | some e => simp [he]
  | none => dsimp only; split <;> simp

end Gowarc
