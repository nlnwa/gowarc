/-
  Facts about lists and functions of the core library that several property files need and that speak of nothing of
  the model.
-/
namespace Gowarc

/-- a list grows by one element, or its last element is replaced: what held of all elements still does -/
theorem forall_mem_snoc {α} {p : α → Prop} {l : List α} {x : α} (hl : ∀ y ∈ l, p y) (hx : p x) : ∀ y ∈ l ++ [x], p y := by
  simpa only [List.forall_mem_append, List.forall_mem_singleton] using ⟨hl, hx⟩

theorem forall_mem_snoc_imp {α} {p : α → Prop} {l : List α} {x x' : α} (h : ∀ y ∈ l ++ [x], p y) (hx : p x → p x') :
    ∀ y ∈ l ++ [x'], p y :=
  forall_mem_snoc (fun y hy => h y (List.mem_append_left _ hy)) (hx (h x (List.mem_append_right _ (List.mem_singleton_self _))))

/-- the strict prefixes of `a ++ b` are those of `a` and `a` followed by those of `b` -/
theorem forall_take_append {α} {P : List α → Prop} (a b : List α) (ha : ∀ k, k < a.length → P (a.take k))
    (hb : ∀ k, k < b.length → P (a ++ b.take k)) : ∀ k, k < (a ++ b).length → P ((a ++ b).take k) := by
  intro k hk
  by_cases h : k < a.length
  · rw [List.take_append_of_le_length (Nat.le_of_lt h)]; exact ha k h
  · rw [List.take_append, List.take_of_length_le (Nat.le_of_not_gt h)]
    exact hb _ (by rw [List.length_append] at hk; omega)

theorem fuel_stable {α : Type} (f : Nat → α) (n : Nat) (h : ∀ m, n ≤ m → f m = f (m + 1)) (extra : Nat) : f (n + extra) = f n := by
  induction extra with
  | zero => rfl
  | succ e ih => rw [← Nat.add_assoc, ← h (n + e) (Nat.le_add_right n e)]; exact ih

/-! ### `modify` at each index of a list, one after the other -/

theorem foldl_modify_get_of_not_mem {α} {f : α → α} {is : List Nat} {i : Nat} (hi : i ∉ is) (l : List α) :
    (is.foldl (fun l j => l.modify j f) l)[i]? = l[i]? := by
  induction is generalizing l with
  | nil => rfl
  | cons j rest ih =>
    rw [List.foldl_cons, ih (fun hm => hi (List.mem_cons_of_mem _ hm)), List.getElem?_modify]
    have : j ≠ i := fun e => hi (e ▸ List.mem_cons_self)
    cases l[i]? <;> simp [this]

theorem ite_ite_idem {α} {f : α → α} (hf : ∀ a, f (f a) = f a) (p q : Prop) [Decidable p] [Decidable q] (a : α) :
    (if q then f (if p then f a else a) else if p then f a else a) = if p ∨ q then f a else a := by
  by_cases p <;> by_cases q <;> simp [*]

/-- for an idempotent `f` it does not matter how often an index occurs -/
theorem foldl_modify_get {α} {f : α → α} (hf : ∀ a, f (f a) = f a) (is : List Nat) (l : List α) (i : Nat) :
    (is.foldl (fun l j => l.modify j f) l)[i]? = (l[i]?).map (fun a => if i ∈ is then f a else a) := by
  induction is generalizing l with
  | nil => simp
  | cons j rest ih =>
    rw [List.foldl_cons, ih, List.getElem?_modify]
    cases l[i]? with
    | none => rfl
    | some a => simp only [Option.map_eq_map, Option.map_some, ite_ite_idem hf, List.mem_cons, eq_comm (a := i)]

theorem ite_singleton_eq_nil {α} (c : Bool) (x : α) : (if c then [x] else []) = [] ↔ c = false := by cases c <;> simp

theorem find?_of_nodup_map {α β} [BEq β] [LawfulBEq β] (f : α → β) : ∀ (l : List α) (d : α), (l.map f).Nodup → d ∈ l →
    l.find? (fun x => f x == f d) = some d
  | a :: t, d, hn, hd => by
    rw [List.map_cons, List.nodup_cons] at hn
    rw [List.find?_cons]
    rcases List.mem_cons.mp hd with rfl | hm
    · simp
    · have : (f a == f d) = false := by
        rw [beq_eq_false_iff_ne]; intro e; exact hn.1 (e ▸ List.mem_map_of_mem hm)
      rw [this]; exact find?_of_nodup_map f t d hn.2 hm

end Gowarc
