/-
  Reporting a list of defects under a policy is the one way the record level of the model produces findings: a policy
  site reports one tag or none, the loops of validateHeader report the defects of the header set (`validateSpec_report`),
  and validateHeader as a whole is three reports and the record type (`validateHeader_eq`). Each judgement over the
  validation monad needs one rule for `report`; its rules for sites, and its lemma about validateHeader, follow.

  `Props.C17.specDefects` is declared here in the namespace of the property whose theorems are about it, because the check
  of a property audits the declarations of its namespace.
-/
import Gowarc.Lemmas.MonadLemmas
namespace Gowarc

/-- reporting a list of defects under a policy: ignore drops them, warn records them all, fail stops at the first -/
def report (p : Pol) (ts : List Tag) : M Unit := fun s =>
  match p, ts with
  | .fail, t :: _ => (.error t, s)
  | .warn, ts => (.ok (), { s with fnd := s.fnd ++ ts })
  | _, _ => (.ok (), s)

theorem report_ignore (ts : List Tag) (s : St) : report .ignore ts s = (.ok (), s) := rfl
theorem report_warn (ts : List Tag) (s : St) : report .warn ts s = (.ok (), { s with fnd := s.fnd ++ ts }) := rfl
theorem report_fail (ts : List Tag) (s : St) :
    report .fail ts s = match ts with
      | [] => (.ok (), s)
      | t :: _ => (.error t, s) := by
  cases ts <;> rfl

theorem report_nil (p : Pol) (s : St) : report p [] s = (.ok (), s) := by
  cases p
  · rfl
  · simp [report_warn]
  · rfl

namespace Props.C17

def fieldTags (Ω : Oracles) (ver rt : Nat) (h : Fields) (nv : NV) : List Tag :=
  (if fieldBad Ω ver rt (defOf nv.1) nv.2 then [Tag.hdrField] else []) ++
  (if !(defOf nv.1).repeatable && decide ((h.getAll nv.1).length > 1) then [Tag.hdrDuplicate] else [])

/-- all spec-axis defects of a header set, one tag per defect, in the order they are examined -/
def specDefects (Ω : Oracles) (ver : Nat) (h : Fields) : List Tag :=
  h.flatMap (fieldTags Ω ver (rtOf h) h) ++
  (Gen.requiredFields.filter (fun f => !h.has (bs f))).map (fun _ => Tag.hdrMissing) ++
  (if ctRule h (rtOf h) then [Tag.hdrMissingCT] else []) ++
  (if concRule h (rtOf h) then [Tag.hdrConcurrent] else [])

end Props.C17
open Props.C17

/-- a site asked only when its policy is not ignore is the site: under ignore nothing is reported anyway -/
theorem condSite_guard (p : Pol) (c : Bool) (t : Tag) : condSite (p != .ignore && c) p t = condSite c p t := by
  cases p <;> cases c <;> rfl

theorem finding_report (t : Tag) : M.finding t = report .warn [t] := rfl
theorem addFindings_report (l : List Tag) : M.addFindings l = report .warn l := rfl

theorem site_report (p : Pol) (t : Tag) : site p t = report p [t] := by
  cases p <;> rfl

theorem condSite_report (c : Bool) (p : Pol) (t : Tag) : condSite c p t = report p (if c then [t] else []) := by
  funext s; cases c <;> cases p <;> simp [report_ignore, report_warn, report_fail]

theorem report_then {p : Pol} {a b : List Tag} {m k : M Unit} (s : St) (hm : m s = report p a s)
    (hk : ∀ s' : St, s'.hdr = s.hdr → k s' = report p b s') :
    (m >>= fun _ => k) s = report p (a ++ b) s := by
  rw [M.bind_def, hm]
  cases p with
  | ignore => simp [report_ignore, hk s rfl]
  | warn => simp [report_warn, hk { s with fnd := s.fnd ++ a } rfl]
  | fail => cases a <;> simp [report_fail, hk s rfl]

theorem loop_report (o : Opts) (Ω : Oracles) (ver rt : Nat) (l : Fields) (s : St) :
    validateFieldsLoop o Ω ver rt l s = report o.spec (l.flatMap (fieldTags Ω ver rt s.hdr)) s := by
  induction l generalizing s with
  | nil => simp [validateFieldsLoop, report_nil]
  | cons nv rest ih =>
    unfold validateFieldsLoop
    simp only [List.flatMap_cons, fieldTags, List.append_assoc]
    refine report_then s (by rw [condSite_report]) fun s' hs' => ?_
    simp only [M.bind_def, M.hdr_def, hs']
    exact report_then s' (by rw [condSite_report]) fun s'' hs'' => by rw [ih, hs'', hs']

theorem required_report (o : Opts) (l : List String) (s : St) :
    requiredLoop o l s = report o.spec ((l.filter (fun x => !s.hdr.has (bs x))).map (fun _ => Tag.hdrMissing)) s := by
  induction l generalizing s with
  | nil => simp [requiredLoop, report_nil]
  | cons x rest ih =>
    unfold requiredLoop
    refine (report_then s (by rw [condSite_report]) fun s' hs' => by rw [ih, hs']).trans ?_
    cases hx : s.hdr.has (bs x) <;> simp [hx]

/-- the spec-axis part of validateHeader reports the defects of the header set, under every policy -/
theorem validateSpec_report (o : Opts) (Ω : Oracles) (ver : Nat) (s : St) :
    validateSpec o Ω ver (rtOf s.hdr) s = report o.spec (specDefects Ω ver s.hdr) s := by
  unfold validateSpec specDefects
  simp only [M.bind_def, M.hdr_def, List.append_assoc]
  refine report_then s (loop_report ..) fun s1 h1 => ?_
  refine report_then s1 (by rw [required_report, h1]) fun s2 h2 => ?_
  simp only [h2, h1]
  exact report_then s2 (by rw [condSite_report]) fun s3 _ => by rw [condSite_report]

theorem wfFindings_eq (l : List Tag) (s : St) : wfFindings l s = (.ok (), ⟨s.hdr, s.fnd ++ l.map (fun _ => Tag.wfBlock)⟩) := by
  induction l generalizing s with
  | nil => simp [wfFindings]
  | cons x rest ih => simp [wfFindings, ih]

theorem wfReport_report (blk : Pol) (inner : List Tag) : wfReport blk inner = report blk (inner.map fun _ => .wfBlock) := by
  funext s
  cases blk with
  | ignore => simp [wfReport, report_ignore]
  | warn => simp [wfReport, wfFindings_eq, report_warn]
  | fail => cases inner <;> simp [wfReport, report_fail]

/-- the block made of an inner parse that returned the fields `fs` with the findings `f`: the content as given, or, with
    the rewrite option on and findings at hand, the fields written out again -/
def wfBlockOf (fixWf : Bool) (c : Bytes) (bd : Digest) (fs : Fields) (f : List Tag) : Block :=
  { kind := .warcFields, raw := if fixWf && !f.isEmpty then fs.write else c, headLen := 0, blockDigest := bd, payloadDigest := none }

/-- **the warc-fields constructor behind its inner parse is one report**, and then the block or the error of the parse -/
theorem wfFinish_eq (blk : Pol) (fixWf : Bool) (c : Bytes) (bd : Digest) (res : ParseRes) :
    wfFinish blk fixWf c bd res = report blk (res.findings.map fun _ => .wfBlock) >>= fun _ =>
      match res with
      | .ok fs f _ => pure (wfBlockOf fixWf c bd fs f)
      | .err t _ => M.fail t := by
  unfold wfFinish
  rw [wfReport_report]
  cases res <;> rfl

/-- a report that let the run go on: the header is untouched, under `fail` there was nothing to report, and nothing at
    all happened unless the axis warns -/
theorem report_ok {p : Pol} {ts : List Tag} {s s' : St} {u : Unit} (h : report p ts s = (.ok u, s')) :
    s'.hdr = s.hdr ∧ (p = .fail → ts = []) ∧ (p ≠ .warn → s' = s) := by
  cases p with
  | ignore => rw [report_ignore] at h; cases h; simp
  | warn => rw [report_warn] at h; cases h; simp
  | fail => rw [report_fail] at h; cases ts <;> cases h; simp

/-- a policy site that let the run go on: the header is untouched, the condition did not hold under `fail`, and
    nothing at all happened unless the axis warns -/
theorem condSite_ok {c : Bool} {p : Pol} {t : Tag} {s s' : St} {u : Unit} (h : condSite c p t s = (.ok u, s')) :
    s'.hdr = s.hdr ∧ (p = .fail → c = false) ∧ (p ≠ .warn → s' = s) := by
  rw [condSite_report] at h
  exact (report_ok h).imp id (And.imp_left fun k hp => by cases c <;> simp_all)

theorem report_cases (p : Pol) (ts : List Tag) (s : St) :
    (∃ t, report p ts s = (.error t, s)) ∨
    ∃ e, report p ts s = (.ok (), ⟨s.hdr, s.fnd ++ e⟩) ∧ (p ≠ .warn → e = []) := by
  cases p with
  | ignore => exact .inr ⟨[], by simp [report_ignore], fun _ => rfl⟩
  | warn => exact .inr ⟨ts, rfl, fun h => absurd rfl h⟩
  | fail =>
    cases ts with
    | nil => exact .inr ⟨[], by simp [report_nil], fun _ => rfl⟩
    | cons t r => exact .inl ⟨t, rfl⟩

/-- **validateHeader is three reports**: no type, unknown type (on its own axis), the defects of the header set -/
theorem validateHeader_eq (o : Opts) (Ω : Oracles) (ver : Nat) :
    validateHeader o Ω ver = M.hdr >>= fun h =>
      report o.spec (if (typeFieldOf h).isEmpty then [.hdrNoType] else []) >>= fun _ =>
      report o.unk (if rtOf h == 0 then [.hdrUnknownType] else []) >>= fun _ =>
      report o.spec (specDefects Ω ver h) >>= fun _ => pure (rtOf h) := by
  funext s
  unfold validateHeader resolveRecordType
  simp only [M.bind_def, M.hdr_def, condSite_report]
  rcases report_cases o.spec (if (typeFieldOf s.hdr).isEmpty then [.hdrNoType] else []) s with ⟨t, h1⟩ | ⟨e1, h1, -⟩ <;> rw [h1]
  rcases report_cases o.unk (if rtOf s.hdr == 0 then [.hdrUnknownType] else []) ⟨s.hdr, s.fnd ++ e1⟩ with ⟨t, h2⟩ | ⟨e2, h2, -⟩ <;>
    simp only [h2, M.pure_def]
  -- under ignore the spec checks are skipped, and a report drops what it is given
  have hv := validateSpec_report o Ω ver ⟨s.hdr, s.fnd ++ e1 ++ e2⟩
  by_cases hs : o.spec = .ignore
  · simp [hs, report_ignore]
  · rw [if_pos (by simpa using hs)]
    simp only [M.bind_def, M.pure_def]
    rw [hv]

/-- the second, detecting parse only exists under the ignore syntax policy -/
theorem newWarcFieldsBlock_not_ignore (o : Opts) (c : Bytes) (fault : Bool) (bd : Digest) (h : o.syn ≠ .ignore) :
    newWarcFieldsBlock o c fault bd =
      (condSite fault o.syn .reader >>= fun _ => wfFinish o.blk o.fixWarcFieldsBlockErrors c bd (parseFields o.syn ⟨c, false⟩)) := by
  unfold newWarcFieldsBlock
  have : (o.syn == Pol.ignore) = false := by cases hs : o.syn <;> simp_all
  simp only [this, Bool.and_false, Bool.false_eq_true, ↓reduceIte]
  congr 1
  funext _
  exact M.bind_pure_id _

end Gowarc
