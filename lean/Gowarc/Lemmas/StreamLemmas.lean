/-
  The line reader `readBytesNL`, the HTTP head scan and the search for a record start, on the shapes of input the proofs
  meet. `readBytesNL_cases` says what the line reader does; `readBytesNL_line`, an induction of its own, runs it on a
  line that is known to end in LF; the other lemmas about it are corollaries of the first.
-/
import Gowarc.Model.Record
namespace Gowarc

/-! ### readBytesNL: the line reader loses nothing, duplicates nothing, and makes progress -/

theorem readBytesNL_cases (l : Bytes) :
    (LF ∉ l ∧ readBytesNL l = (l, [], false)) ∨
    ∃ pre rest, LF ∉ pre ∧ l = pre ++ LF :: rest ∧ readBytesNL l = (pre ++ [LF], rest, true) := by
  induction l with
  | nil => exact .inl ⟨by simp, rfl⟩
  | cons b t ih =>
    rw [readBytesNL]
    by_cases hb : b = LF
    · exact .inr ⟨[], t, by simp, by rw [hb]; rfl, by simp [hb]⟩
    · rw [if_neg (by simpa using hb)]
      rcases ih with ⟨hn, e⟩ | ⟨pre, rest, hn, rfl, e⟩
      · exact .inl ⟨by simp [hn, Ne.symm hb], by rw [e]⟩
      · exact .inr ⟨b :: pre, rest, by simp [hn, Ne.symm hb], rfl, by rw [e]; rfl⟩

theorem readBytesNL_append (l : Bytes) : (readBytesNL l).1 ++ (readBytesNL l).2.1 = l := by
  rcases readBytesNL_cases l with ⟨_, e⟩ | ⟨pre, rest, _, rfl, e⟩ <;> rw [e] <;> simp

theorem readBytesNL_found (l : Bytes) (h : (readBytesNL l).2.2 = true) :
    ∃ pre, (readBytesNL l).1 = pre ++ [LF] ∧ LF ∉ pre := by
  rcases readBytesNL_cases l with ⟨_, e⟩ | ⟨pre, rest, hn, _, e⟩
  · rw [e] at h; cases h
  · exact ⟨pre, by rw [e], hn⟩

theorem readBytesNL_nolf (l : Bytes) (h : LF ∉ l) : readBytesNL l = (l, [], false) := by
  rcases readBytesNL_cases l with ⟨_, e⟩ | ⟨pre, rest, _, rfl, _⟩
  · exact e
  · exact absurd (by simp) h

theorem readBytesNL_line (pre rest : Bytes) (h : LF ∉ pre) :
    readBytesNL (pre ++ [LF] ++ rest) = (pre ++ [LF], rest, true) := by
  induction pre with
  | nil => simp [readBytesNL]
  | cons b t ih =>
    simp only [List.mem_cons, not_or] at h
    have hb : (b == LF) = false := by simp; exact fun e => h.1 e.symm
    simp only [List.cons_append, readBytesNL, hb, Bool.false_eq_true, ↓reduceIte]
    have := ih h.2
    rw [this]

theorem readBytesNL_progress (l : Bytes) (h : l ≠ []) : (readBytesNL l).2.1.length < l.length := by
  rcases readBytesNL_cases l with ⟨_, e⟩ | ⟨pre, rest, _, rfl, e⟩ <;> rw [e]
  · exact List.length_pos_iff.mpr h
  · simp only [List.length_append, List.length_cons]; omega

theorem readBytesNL_rest_le (l : Bytes) : (readBytesNL l).2.1.length ≤ l.length := by
  have := congrArg List.length (readBytesNL_append l)
  simp only [List.length_append] at this
  omega

theorem readBytesNL_crlf (x rest : Bytes) (h : LF ∉ x) : readBytesNL (x ++ crlf ++ rest) = (x ++ crlf, rest, true) := by
  have := readBytesNL_line (x ++ [CR]) rest (by simp only [List.mem_append, List.mem_singleton, not_or]; exact ⟨h, by decide⟩)
  simpa [crlf, CR, LF] using this

theorem missingCR_crlf (x : Bytes) : missingCR (x ++ crlf) = false := by
  simp [missingCR, crlf, CR]

theorem nolf_take_crlf (x : Bytes) (k : Nat) (h : LF ∉ x) (hk : k < (x ++ crlf).length) : LF ∉ (x ++ crlf).take k := by
  have hc : x ++ crlf = (x ++ [CR]) ++ [LF] := by simp [crlf, CR, LF]
  rw [hc] at hk ⊢
  rw [List.take_append_of_le_length (by simp only [List.length_append, List.length_singleton] at hk ⊢; omega)]
  intro hm
  have := List.mem_of_mem_take hm
  simp only [List.mem_append, List.mem_singleton] at this
  exact this.elim h (by decide)

/-! ### HTTP head splitting: head ++ rest = content -/

theorem headerBytesLoop_append (fuel : Nat) (acc rest : Bytes) :
    (headerBytesLoop fuel acc rest).1 ++ (headerBytesLoop fuel acc rest).2.1 = acc ++ rest := by
  induction fuel generalizing acc rest with
  | zero => rfl
  | succ k ih =>
    unfold headerBytesLoop
    split
    · rename_i hnf
      rcases readBytesNL_cases rest with ⟨_, e⟩ | ⟨_, _, _, _, e⟩ <;> rw [e] at hnf ⊢
      · simp
      · cases hnf
    · split
      · simp [List.append_assoc, readBytesNL_append]
      · rw [ih, List.append_assoc, readBytesNL_append]

/-- **the HTTP protocol header and the payload partition the content**: nothing is lost or duplicated at the split -/
theorem headerBytes_append (content : Bytes) : (headerBytes content).1 ++ (headerBytes content).2.1 = content :=
  headerBytesLoop_append _ [] content

/-! ### junk skipping -/

theorem skipJunk_sound {fuel : Nat} {rest : Bytes} {off off' : Nat} {at_ : Bytes}
    (h : skipJunk fuel rest off = .inr (off', at_)) :
    off ≤ off' ∧ at_ = rest.drop (off' - off) ∧ isMagic at_ = true ∧ 5 ≤ at_.length := by
  induction fuel generalizing rest off with
  | zero => simp [skipJunk] at h
  | succ k ih =>
    unfold skipJunk at h
    split at h
    · simp at h
    · rename_i hlen
      split at h
      · rename_i hm
        simp at h
        obtain ⟨h1, h2⟩ := h
        subst h1 h2
        exact ⟨Nat.le_refl _, by simp, hm, by omega⟩
      · obtain ⟨h1, h2, h3, h4⟩ := ih h
        refine ⟨by omega, ?_, h3, h4⟩
        rw [h2, List.drop_drop]
        congr 1; omega

end Gowarc
