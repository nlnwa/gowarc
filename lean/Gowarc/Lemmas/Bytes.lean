/-
  Byte-list facts about `splitFirst` and the trim functions of Model/Basic.lean.
-/
import Gowarc.Model.Basic
namespace Gowarc

-- two theorems of C19 that are needed below its property file (Lemmas/DigestDetect.lean uses the first): `./check`
-- audits a property by namespace, so they keep that of C19
namespace Props.C19
theorem splitFirst_append (c : UInt8) (a r : Bytes) (h : c ∉ a) : splitFirst c (a ++ c :: r) = some (a, r) := by
  induction a with
  | nil => simp [splitFirst]
  | cons b t ih =>
    simp only [List.mem_cons, not_or] at h
    simp [splitFirst, Ne.symm h.1, ih h.2]

theorem trimRight_nil (p : UInt8 → Bool) : trimRight p [] = [] := rfl
end Props.C19

theorem splitFirst_none (c : UInt8) (s : Bytes) (h : c ∉ s) : splitFirst c s = none := by
  induction s with
  | nil => rfl
  | cons b r ih =>
    simp only [List.mem_cons, not_or] at h
    simp [splitFirst, Ne.symm h.1, ih h.2]

/-! ### trimming -/

theorem trimRight_append_ws (p : UInt8 → Bool) (l w : Bytes) (hw : ∀ b ∈ w, p b = true) : trimRight p (l ++ w) = trimRight p l := by
  unfold trimRight
  rw [List.reverse_append, List.dropWhile_append_of_pos fun b hb => hw b (List.mem_reverse.mp hb)]

theorem trimRight_snoc (p : UInt8 → Bool) (i : Bytes) (x : UInt8) (hx : p x = false) : trimRight p (i ++ [x]) = i ++ [x] := by
  unfold trimRight
  simp [hx]

theorem trimLeft_cons (p : UInt8 → Bool) (b : UInt8) (t : Bytes) (hb : p b = false) : trimLeft p (b :: t) = b :: t := by
  simp [trimLeft, hb]

theorem trim_nows (p : UInt8 → Bool) (l : Bytes) (h : ∀ b ∈ l, p b = false) : trim p l = l := by
  cases l with
  | nil => rfl
  | cons b t =>
    unfold trim
    rw [trimLeft_cons p b t (h b (by simp))]
    -- neither the first nor the last byte is trimmed away
    have hne : (b :: t) ≠ [] := by simp
    rw [← List.dropLast_concat_getLast hne]
    exact trimRight_snoc p _ _ (h _ (List.getLast_mem hne))

end Gowarc
