/-
  strconv round trip for non-negative numbers: the decimal rendering (`strconv.FormatInt`, modelled by `natToDec`) parses
  back (`strconv.ParseInt(s, 10, 64)`, modelled by `parseInt10Val`) to the same number, for every number an int64 holds.
-/
import Gowarc.Model.Record
namespace Gowarc

theorem digit_byte (c : Char) (h : c.isDigit = true) :
    isDigit (UInt8.ofNat c.toNat) = true ∧ (UInt8.ofNat c.toNat).toNat = c.toNat := by
  have h1 : 48 ≤ c.toNat ∧ c.toNat ≤ 57 := by simpa [Char.isDigit, UInt32.le_iff_toNat_le] using h
  have h2 : (UInt8.ofNat c.toNat).toNat = c.toNat := by rw [UInt8.toNat_ofNat']; omega
  exact ⟨by simp [isDigit, UInt8.le_iff_toNat_le, h2, h1], h2⟩

theorem digitsVal_natToDec (n : Nat) : digitsVal (natToDec n) = n := by
  have key : ∀ (l : List Char), (∀ c ∈ l, c.isDigit = true) → ∀ init,
      (l.map fun c => UInt8.ofNat c.toNat).foldl (fun acc b => acc * 10 + (b.toNat - 48)) init = Nat.ofDigitChars 10 l init := by
    intro l hl
    induction l with
    | nil => intro _; rfl
    | cons c t ih =>
      intro init
      rw [List.map_cons, List.foldl_cons, Nat.ofDigitChars_cons, (digit_byte c (hl c (by simp))).2,
        ih fun x hx => hl x (by simp [hx]), Nat.mul_comm]
      rfl
  rw [digitsVal, natToDec, key _ fun c hc => Nat.isDigit_of_mem_toDigits (by decide) (by decide) hc]
  exact Nat.ofDigitChars_toDigits (by decide) (by decide)

theorem digitsVal_zeros (k : Nat) (s : Bytes) : digitsVal (List.replicate k 48 ++ s) = digitsVal s := by
  induction k with
  | zero => rfl
  | succ n ih => simp only [List.replicate_succ, List.cons_append]; exact ih

theorem natToDec_all_digits (n : Nat) : (natToDec n).all isDigit = true := by
  simp only [natToDec, List.all_map, List.all_eq_true, Function.comp]
  exact fun c hc => (digit_byte c (Nat.isDigit_of_mem_toDigits (by decide) (by decide) hc)).1

/-- what `ParseInt` returns on a string of digits that fits an int64 -/
theorem parseInt10Val_digits (s : Bytes) (hne : s ≠ []) (hd : s.all isDigit = true) (hv : digitsVal s ≤ 9223372036854775807) :
    parseInt10Val s = (digitsVal s : Int) := by
  unfold parseInt10Val
  split
  -- a leading `-` (45) or `+` (43) is not a digit
  · simp [isDigit] at hd
  · simp [isDigit] at hd
  · simp [hne, hd, hv]

/-- **ParseInt(FormatInt(n)) = n** for every n an int64 holds -/
theorem parseInt10Val_natToDec (n : Nat) (h : n ≤ 9223372036854775807) : parseInt10Val (natToDec n) = (n : Int) := by
  have hne : natToDec n ≠ [] := fun e => Nat.toDigits_ne_nil (List.map_eq_nil_iff.mp e)
  rw [parseInt10Val_digits _ hne (natToDec_all_digits n) (by rwa [digitsVal_natToDec]), digitsVal_natToDec]

theorem contentLengthOf_natToDec (h : Fields) (n : Nat) (hn : n ≤ 9223372036854775807)
    (hhas : h.has (bs "Content-Length") = true) (hget : h.get (bs "Content-Length") = natToDec n) :
    contentLengthOf h = (n : Int) := by
  simpa [contentLengthOf, hhas, hget] using parseInt10Val_natToDec n hn

end Gowarc
