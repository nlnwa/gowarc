import Gowarc.Lemmas.ParserStep
namespace Gowarc

/-! ## The header parser under warn and under fail tell one story

`PSim fnd0 rw rf`: `rw` is the outcome under warn starting from accumulated findings `fnd0`, `rf` the outcome under fail
from the same point. Either warn added no finding and both outcomes are identical (or both are errors), or warn added
findings and fail returned an error (with the findings unchanged). -/

def ParseRes.isErr : ParseRes → Bool
  | .ok .. => false
  | .err .. => true

structure PSim (fnd0 : List Tag) (rw rf : ParseRes) : Prop where
  mono : ∃ extra, rw.fnd = fnd0 ++ extra
  ffnd : rf.fnd = fnd0
  same : rw.fnd = fnd0 → rf = rw ∨ (rw.isErr = true ∧ rf.isErr = true)
  diff : rw.fnd ≠ fnd0 → rf.isErr = true

theorem PSim.refl (fnd0 : List Tag) (r : ParseRes) (h : r.fnd = fnd0) : PSim fnd0 r r :=
  ⟨⟨[], by simp [h]⟩, h, fun _ => .inl rfl, fun hne => absurd h hne⟩

/-- fail stopped with an error here; warn went on and has added a finding, or has stopped with an error too -/
theorem PSim.stop {fnd0 : List Tag} {rw : ParseRes} (t : Tag) (hm : FndExt .warn fnd0 rw.fnd)
    (he : rw.fnd = fnd0 → rw.isErr = true) : PSim fnd0 rw (.err t fnd0) :=
  ⟨hm.1.imp fun _ h => h.symm, rfl, fun h => .inr ⟨he h, rfl⟩, fun _ => rfl⟩

/-- … in particular when warn went on from a finding -/
theorem PSim.stop_snoc {fnd0 : List Tag} {rw : ParseRes} (t : Tag) {x : Tag} (h : FndExt .warn (fnd0 ++ [x]) rw.fnd) :
    PSim fnd0 rw (.err t fnd0) :=
  .stop t ((FndExt.warn _ _).trans h) fun e => absurd e h.ne_of_snoc

/-- `PSim` in two cases, with the error under fail spelt out -/
theorem PSim.cases {fnd0 : List Tag} {rw rf : ParseRes} (h : PSim fnd0 rw rf) :
    (rf = rw ∧ rw.fnd = fnd0) ∨ ((∃ t, rf = .err t fnd0) ∧ (rw.isErr = true ∨ rw.fnd ≠ fnd0)) := by
  have hstop : rf.isErr = true → ∃ t, rf = .err t fnd0 := fun he => by
    cases rf with
    | ok a b d => cases he
    | err t f => exact ⟨t, by rw [show f = fnd0 from h.ffnd]⟩
  by_cases hw : rw.fnd = fnd0
  · exact (h.same hw).elim (fun e => .inl ⟨e, hw⟩) fun ⟨a, b⟩ => .inr ⟨hstop b, .inl a⟩
  · exact .inr ⟨hstop (h.diff hw), .inr hw⟩

/-- what the two policies can disagree on for one line: only when the line lacks its CR — then fail reports exactly
    that, and warn reports it too or (if the stream fails right after the line) the reader error -/
theorem readLine_rel (s : Stream) :
    readLine .warn s = readLine .fail s ∨
    ((readLine .fail s).err = some .synMissingCR ∧
      ((readLine .warn s).err = some .synMissingCR ∨ ((readLine .warn s).err = some .reader ∧ (readLine .warn s).isNil = true))) := by
  unfold readLine
  cases (readBytesNL s.rest).2.2 with
  | false => exact .inl rfl
  | true =>
    cases missingCR (readBytesNL s.rest).1 with
    | false => exact .inl rfl
    | true =>
      cases (readBytesNL s.rest).2.1 with
      | cons c more => exact .inr ⟨rfl, .inl rfl⟩
      | nil =>
        cases s.fault with
        | false => exact .inr ⟨rfl, .inl rfl⟩
        | true => exact .inr ⟨rfl, .inr ⟨rfl, rfl⟩⟩

/-! ### the main loop -/

/-- the rest of the loop only extends the findings (under warn) -/
def KExt (k : Kont) : Prop := ∀ wf fnd s, FndExt .warn fnd (k wf fnd s).fnd
def KSim (kw kf : Kont) : Prop := ∀ wf fnd s, PSim fnd (kw wf fnd s) (kf wf fnd s)

/-- a piece of the loop body that does not depend on the policy: the same final result, or the rest of the loop -/
theorem TailCall.sim {fnd : List Tag} {n : Nat} {f : Kont → ParseRes} (h : TailCall .fail fnd n f) {kw kf : Kont}
    (hk : KSim kw kf) : PSim fnd (f kw) (f kf) := by
  cases h with
  | done r hf _ h => rw [h, h]; exact .refl _ _ (hf.2 (by decide))
  | call wf fnd' s' hf _ h => rw [h, h, hf.2 (by decide)]; exact hk _ _ _

theorem parseField_sim {kw kf : Kont} (hk : KSim kw kf) (hm : KExt kw) (wf : Fields) (line : Bytes) (nc : UInt8) (eoh : Bool)
    (fnd : List Tag) (s : Stream) : PSim fnd (parseField .warn kw wf line nc eoh fnd s) (parseField .fail kf wf line nc eoh fnd s) := by
  unfold parseField
  cases parseLine line with
  | inl e => exact .stop_snoc e ((afterLine_tail ..).fnd hm)
  | inr nv => exact (afterLine_tail ..).sim hk

/-! ### the continuation loop, with what follows it -/

theorem contThen_sim {gw gf : LineK} (hg : ∀ line nc eoh fnd s, PSim fnd (gw line nc eoh fnd s) (gf line nc eoh fnd s))
    (hm : ∀ line nc eoh fnd s, FndExt .warn fnd (gw line nc eoh fnd s).fnd) (fuel : Nat) :
    ∀ (line : Bytes) (nc : UInt8) (eoh : Bool) (fnd : List Tag) (s : Stream),
    PSim fnd (contThen .warn fuel line nc eoh fnd s gw) (contThen .fail fuel line nc eoh fnd s gf) := by
  induction fuel with
  | zero => intro _ _ _ _ _; exact hg ..
  | succ k ih =>
    intro line nc eoh fnd s
    unfold contThen
    cases hnc : (nc == SP || nc == HT) with
    | false => rw [contLoop_stop hnc, contLoop_stop hnc]; exact hg ..
    | true =>
      -- warn went on from a finding where fail stopped
      have hstop : ∀ (t x : Tag) line nc eoh s, PSim fnd (contThen .warn k line nc eoh (fnd ++ [x]) s gw) (.err t fnd) :=
        fun t x _ _ _ _ => .stop_snoc t (contThen_fnd hm ..)
      rw [contLoop, contLoop, if_pos hnc, if_pos hnc]
      rcases readLine_rel s with hrl | ⟨hf, hw⟩
      · -- the line is read identically
        rw [hrl]
        cases (readLine Pol.fail s).err with
        | none => exact ih ..
        | some e =>
          by_cases hn : (readLine Pol.fail s).isNil = true
          · simp only [hn, ↓reduceIte]; exact .refl _ _ rfl
          · simp only [hn, Bool.false_eq_true, ↓reduceIte]; exact hstop ..
      · -- the line lacks its carriage return: fail stops here whether or not the line is all white space
        rw [hf]
        simp only [show (Tag.synMissingCR == Tag.eoh) = false from rfl, Bool.false_eq_true, ↓reduceIte, ite_self]
        rcases hw with hwe | ⟨hwe, hwn⟩
        · rw [hwe]
          by_cases hn : (readLine Pol.warn s).isNil = true
          · simp only [hn, ↓reduceIte]; exact .stop _ (.refl _ _) fun _ => rfl
          · simp only [hn, Bool.false_eq_true, ↓reduceIte]; exact hstop ..
        · simp only [hwe, hwn, ↓reduceIte]; exact .stop _ (.refl _ _) fun _ => rfl

theorem parseRest_sim {kw kf : Kont} (hk : KSim kw kf) (hm : KExt kw) {wf : Fields} {fnd : List Tag} {lr : LineRes} {eoh fault : Bool} :
    PSim fnd (parseRest .warn kw wf fnd lr eoh fault) (parseRest .fail kf wf fnd lr eoh fault) :=
  contThen_sim (parseField_sim hk hm wf) (fun _ _ _ _ _ => (parseField_tail ..).fnd hm) ..

theorem parseLoop_sim (fuel : Nat) : KSim (parseLoop .warn fuel) (parseLoop .fail fuel) := by
  induction fuel with
  | zero => intro wf fnd s; exact PSim.refl _ _ rfl
  | succ k ih =>
    intro wf fnd s
    have hm : KExt (parseLoop .warn k) := parseLoop_fnd .warn k
    have hstop : ∀ (t x : Tag) lr eoh, PSim fnd (parseRest .warn (parseLoop .warn k) wf (fnd ++ [x]) lr eoh s.fault) (.err t fnd) :=
      fun t x lr eoh => .stop_snoc t ((parseRest_tail ..).fnd hm)
    rw [parseLoop_succ, parseLoop_succ, parseBody, parseBody]
    rcases readLine_rel s with hrl | ⟨hf, hw⟩
    · rw [hrl]
      cases (readLine Pol.fail s).err with
      | none => exact parseRest_sim ih hm
      | some e =>
        simp only
        split
        · exact .refl _ _ rfl
        · split
          · split
            · exact .refl _ _ rfl
            · exact hstop ..
          · exact hstop ..
    · rw [hf]
      rcases hw with hwe | ⟨hwe, -⟩
      · rw [hwe]; exact hstop ..
      · rw [hwe]; exact .stop _ (.refl _ _) fun _ => rfl

/-- **the header parser under warn and under fail**: if warn reports nothing, fail returns the identical result
    (or both fail); if warn reports anything, fail returns an error -/
theorem parseFields_sim (s : Stream) : PSim [] (parseFields .warn s) (parseFields .fail s) :=
  parseLoop_sim _ _ _ _

end Gowarc
