/-
  base64 (standard alphabet, padded): the decoding loop inverts the encoder, for every byte string.
  Model of encoding/base64 as used by digest.go; the same functions run in the driver against the implementation.
-/
import Gowarc.Model.Digest
import Gowarc.Lemmas.ByteDecide
namespace Gowarc

theorem b64Val_char : ∀ n : UInt8, n < 64 → b64Val (b64Char n) = some n := by decide +kernel
theorem Byte.shr2_lt (a : UInt8) : a >>> 2 < 64 := Byte.shr_lt a (by decide)
theorem Byte.and63_lt (a : UInt8) : a &&& 63 < 64 := Byte.and_lt a (by decide)
theorem b64Char_not_nl : ∀ n : UInt8, isNl (b64Char n) = false := by decide +kernel
theorem b64Val_pad : b64Val 61 = none := by decide +kernel

/-! the three bytes out of the four 6-bit values; a missing byte counts as 0 -/
theorem b64_byte0 (a b : UInt8) : (a >>> 2) <<< 2 ||| ((a <<< 4 ||| b >>> 4) &&& 63) >>> 4 = a := by masks
theorem b64_byte1 (a b c : UInt8) : ((a <<< 4 ||| b >>> 4) &&& 63) <<< 4 ||| ((b <<< 2 ||| c >>> 6) &&& 63) >>> 2 = b := by masks
theorem b64_byte2 (b c : UInt8) : ((b <<< 2 ||| c >>> 6) &&& 63) <<< 6 ||| (c &&& 63) = c := by masks

section
/- the simp set of the two quantum lemmas: encoder group and decoder quantum unfolded, the alphabet decoded, the bytes rejoined -/
attribute [local simp] b64Group b64Quantum b64Pack b64Val_char b64Val_pad isNl Byte.shr2_lt Byte.and63_lt b64_byte0 b64_byte1 b64_byte2

theorem b64Quantum_full (a b c : UInt8) (rest : Bytes) : b64Quantum (b64Group [a, b, c] ++ rest) 0 [] = some ([a, b, c], rest) := by
  simp

/-- one byte left: two characters and `==`; two bytes left: three characters and `=`.
    The last byte comes out by the identity of the full group with 0 for the byte that is not there. -/
theorem b64Quantum_rest (g : Bytes) (h0 : 0 < g.length) (h3 : g.length < 3) : b64Quantum (b64Group g) 0 [] = some (g, []) := by
  match g, h0, h3 with
  | [a], _, _ => simpa using b64_byte0 a 0
  | [a, b], _, _ => simpa using b64_byte1 a b 0
end

theorem b64Group_length (g : Bytes) : (b64Group g).length = 4 := by
  unfold b64Group
  simp only [List.length_append, List.length_map, List.length_take, List.length_replicate, List.length_cons, List.length_nil]
  split <;> omega

theorem b64Group_isEmpty (g rest : Bytes) : (b64Group g ++ rest).isEmpty = false := by
  -- a group has length 4, so it is not `[]`
  have := b64Group_length g
  cases h : b64Group g <;> simp_all

/-- the clause of `b64Enc` for the rest applies to one or two bytes -/
theorem b64_rest_length {g : Bytes} (h1 : g = [] → False) (h2 : ∀ a b c rest, g = a :: b :: c :: rest → False) :
    0 < g.length ∧ g.length < 3 := by
  match g, h1, h2 with
  | [], h1, _ => exact absurd rfl h1
  | [_], _, _ | [_, _], _, _ => simp
  | a :: b :: c :: rest, _, h2 => exact absurd rfl (h2 a b c rest)

theorem b64Enc_length (b : Bytes) : (b64Enc b).length = b64EncodedLen b.length := by
  unfold b64EncodedLen
  fun_induction b64Enc b with
  | case1 => rfl
  | case2 a b c rest ih => simp only [List.length_append, b64Group_length, ih, List.length_cons]; omega
  | case3 g h1 h2 => have := b64_rest_length h1 h2; rw [b64Group_length]; omega

theorem b64DecLoop_enc (b : Bytes) : ∀ fuel, (b64Enc b).length < fuel → b64DecLoop fuel (b64Enc b) = some b := by
  fun_induction b64Enc b with
  | case1 => intro fuel h; cases fuel <;> simp [b64DecLoop]
  | case2 a b c rest ih =>
    intro fuel h
    cases fuel with
    | zero => omega
    | succ f =>
      rw [List.length_append, b64Group_length] at h
      rw [b64DecLoop, b64Group_isEmpty, b64Quantum_full]
      simp only [Bool.false_eq_true, ↓reduceIte]
      rw [ih f (by omega)]
      rfl
  | case3 g h1 h2 =>
    intro fuel h
    cases fuel with
    | zero => omega
    | succ f =>
      have hne : (b64Group g).isEmpty = false := by simpa using b64Group_isEmpty g []
      rw [b64DecLoop, hne, b64Quantum_rest g (b64_rest_length h1 h2).1 (b64_rest_length h1 h2).2]
      cases f <;> simp [b64DecLoop]

end Gowarc
