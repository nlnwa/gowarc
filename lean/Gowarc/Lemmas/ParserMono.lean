/-
  Acceptance by the header parser is monotone along the syntax axis (`parseFields_le`). Between warn and fail this is
  read off `parseFields_sim` (ParserSim); between ignore and warn it is proved here along the loops of the parser (`FEq`,
  the `_iw` lemmas): ignore reads a line as warn does, except that it does not notice a missing carriage return.
-/
import Gowarc.Lemmas.ParserSim
namespace Gowarc

/-- one direction only, from the outcome under warn to the outcome under ignore; the findings are left open -/
def FEq (ri rw : ParseRes) : Prop := ∀ fs f s', rw = .ok fs f s' → ∃ f', ri = .ok fs f' s'

theorem readLine_iw (s : Stream) :
    readLine .ignore s = { readLine .warn s with
      err := if (readLine .warn s).err = some .synMissingCR then none else (readLine .warn s).err } := by
  unfold readLine
  cases (readBytesNL s.rest).2.2 with
  | false => cases s.fault <;> rfl
  | true => cases missingCR (readBytesNL s.rest).1 <;> cases (readBytesNL s.rest).2.1 <;> cases s.fault <;> rfl

theorem FEq.ok {wf : Fields} {fi fw : List Tag} {s : Stream} : FEq (.ok wf fi s) (.ok wf fw s) :=
  fun _ _ _ h => by cases h; exact ⟨fi, rfl⟩

theorem FEq.err {r : ParseRes} {t : Tag} {fw : List Tag} : FEq r (.err t fw) := fun _ _ _ h => by cases h

theorem afterLine_iw {ki kw : Kont} {wf : Fields} {fi fw : List Tag} {nc : UInt8} {eoh : Bool} {s : Stream}
    (hk : FEq (ki wf fi s) (kw wf fw s)) : FEq (afterLine ki wf fi nc eoh s) (afterLine kw wf fw nc eoh s) := by
  unfold afterLine
  split
  · exact .ok
  · split
    · exact .err
    · exact .ok
    · exact hk

theorem contThen_iw {gi gw : LineK} (hg : ∀ line nc eoh fi fw s, FEq (gi line nc eoh fi s) (gw line nc eoh fw s)) (fuel : Nat)
    {line : Bytes} {nc : UInt8} {eoh : Bool} {fi fw : List Tag} {s : Stream} :
    FEq (contThen .ignore fuel line nc eoh fi s gi) (contThen .warn fuel line nc eoh fw s gw) := by
  induction fuel generalizing line nc eoh fw s with
  | zero => exact hg _ _ _ _ _ _
  | succ f ih =>
    unfold contThen
    cases hsp : (nc == SP || nc == HT) with
    | false => rw [contLoop_stop hsp, contLoop_stop hsp]; exact hg _ _ _ _ _ _
    | true =>
      rw [contLoop, contLoop, if_pos hsp, if_pos hsp, readLine_iw]
      cases hew : (readLine .warn s).err with
      | none => exact ih
      | some e =>
        by_cases hnil : (readLine .warn s).isNil = true
        · -- warn stops
          simp only [hnil, ↓reduceIte]
          split <;> exact .err
        · by_cases hcr : e = .synMissingCR
          · subst hcr
            simp only [↓reduceIte, hnil, Bool.false_eq_true, show (Tag.synMissingCR == Tag.eoh) = false from rfl, Bool.or_false]
            exact ih
          · simp only [Option.some.injEq, hcr, ↓reduceIte, hnil, Bool.false_eq_true]
            exact ih

theorem parseField_iw {ki kw : Kont} (hk : ∀ {wf fi fw s}, FEq (ki wf fi s) (kw wf fw s)) (wf : Fields) (line : Bytes) (nc : UInt8)
    (eoh : Bool) (fi fw : List Tag) (s : Stream) :
    FEq (parseField .ignore ki wf line nc eoh fi s) (parseField .warn kw wf line nc eoh fw s) := by
  unfold parseField
  cases parseLine line with
  | inl e => exact afterLine_iw hk
  | inr nv => exact afterLine_iw hk

theorem parseRest_iw {ki kw : Kont} (hk : ∀ {wf fi fw s}, FEq (ki wf fi s) (kw wf fw s)) {wf : Fields} {fi fw : List Tag} {lr : LineRes}
    {eoh fault : Bool} : FEq (parseRest .ignore ki wf fi lr eoh fault) (parseRest .warn kw wf fw lr eoh fault) :=
  contThen_iw (parseField_iw @hk wf) _

theorem parseLoop_iw (fuel : Nat) {wf : Fields} {fi fw : List Tag} {s : Stream} :
    FEq (parseLoop .ignore fuel wf fi s) (parseLoop .warn fuel wf fw s) := by
  induction fuel generalizing wf fi fw s with
  | zero => exact .err
  | succ k ih =>
    have hpr : ∀ {fi' fw' eoh}, FEq (parseRest .ignore (parseLoop .ignore k) wf fi' (readLine .warn s) eoh s.fault)
        (parseRest .warn (parseLoop .warn k) wf fw' (readLine .warn s) eoh s.fault) := parseRest_iw @ih
    rw [parseLoop_succ, parseLoop_succ, parseBody, parseBody, readLine_iw]
    cases hew : (readLine .warn s).err with
    | none => exact hpr
    | some e =>
      by_cases hcr : e = .synMissingCR
      · subst hcr; exact hpr
      · simp only [Option.some.injEq, hcr, ↓reduceIte]
        split
        · exact .err
        · split
          · split
            · exact .ok
            · exact hpr
          · exact hpr

/-- the order of strictness: ignore ≤ warn ≤ fail -/
def Pol.le : Pol → Pol → Bool
  | .ignore, _ => true
  | .warn, .ignore => false
  | .warn, _ => true
  | .fail, .fail => true
  | .fail, _ => false

theorem Pol.le_refl (p : Pol) : p.le p = true := by cases p <;> rfl

theorem Pol.fail_of_le {pL pS : Pol} (h : pL.le pS = true) (hL : pL = .fail) : pS = .fail := by
  cases pL <;> cases pS <;> simp_all [Pol.le]

theorem Pol.le_fail (p : Pol) : p.le .fail = true := by cases p <;> rfl

theorem Pol.le_total (p q : Pol) : p.le q = true ∨ q.le p = true := by cases p <;> cases q <;> simp [Pol.le]

/-- whatever the stricter syntax policy accepts, the more lenient one accepts with the same fields and the same rest;
    and a clean strict parse means a clean lenient parse -/
theorem parseFields_le {pL pS : Pol} (h : pL.le pS = true) {s : Stream} {fs : Fields} {fS : List Tag} {s' : Stream}
    (hS : parseFields pS s = .ok fs fS s') : ∃ fL, parseFields pL s = .ok fs fL s' ∧ (fS = [] → fL = []) := by
  have wf : ∀ {fs fS s'}, parseFields .fail s = .ok fs fS s' → parseFields .warn s = .ok fs fS s' := by
    intro fs fS s' hS
    rcases (parseFields_sim s).cases with ⟨heq, -⟩ | ⟨⟨t, ht⟩, -⟩
    · exact heq ▸ hS
    · rw [hS] at ht; cases ht
  have iw : ∀ {fs fS s'}, parseFields .warn s = .ok fs fS s' → ∃ fL, parseFields .ignore s = .ok fs fL s' ∧ (fS = [] → fL = []) := by
    intro fs fS s' hS
    obtain ⟨fL, hL⟩ := parseLoop_iw _ fs fS s' hS
    exact ⟨fL, hL, fun _ => parseFields_ok_nofind hL (by decide)⟩
  by_cases hne : pL = pS
  · subst hne; exact ⟨fS, hS, id⟩
  -- there remain ignore < warn, ignore < fail (by way of warn) and warn < fail
  cases pL <;> cases pS <;> simp [Pol.le] at h hne
  · exact iw hS
  · exact iw (wf hS)
  · exact ⟨fS, wf hS, id⟩

end Gowarc
