/-
  Lemmas for the validation side of the round trip (C01), one section for each stage of the reader: a header set without
  spec defects stays without defects when the builder appends a digest field, and validateHeader is silent on such a set
  under every policy; a digest value the builder wrote is accepted silently (`written_digest_silent`); the block a strict
  builder accepted is clean content (`parseBlock_strict_ok`), which every reader takes silently and as given
  (`parseBlock_clean`; `parseBlock_reaccept` puts the two together); the header the strict builder's ValidateDigest leaves
  (`finalHdr`) and when a reader's ValidateDigest is silent on it; `AddsDigests` collects what the two headers have in common.
-/
import Gowarc.Lemmas.Lists
import Gowarc.Props.C03detect
import Gowarc.Lemmas.ParserMono
import Gowarc.Lemmas.Inversion
namespace Gowarc
open Gowarc.Props.C17 Gowarc.Props.C03

/-- record types are 0 (unknown) or one of the eight bits -/
theorem recTypeOfName_range (lc : Bytes) : recTypeOfName lc = 0 ∨ recTypeOfName lc &&& 255 ≠ 0 := by
  unfold recTypeOfName
  cases hf : Gen.stringToRecordType.find? (fun p => bs p.1 == lc) with
  | none => left; rfl
  | some p =>
    right
    have hm := List.mem_of_find?_eq_some hf
    have : ∀ q ∈ Gen.stringToRecordType, q.2 &&& 255 ≠ 0 := by decide +kernel
    exact this p hm

/-! ### a header set without defects stays without defects when a harmless fresh field is appended -/

theorem specDefects_nil_iff (Ω : Oracles) (ver : Nat) (h : Fields) :
    specDefects Ω ver h = [] ↔
      ((∀ nv ∈ h, fieldBad Ω ver (rtOf h) (defOf nv.1) nv.2 = false ∧
                  (!(defOf nv.1).repeatable && decide ((h.getAll nv.1).length > 1)) = false) ∧
       (∀ f ∈ Gen.requiredFields, h.has (bs f) = true) ∧ ctRule h (rtOf h) = false ∧ concRule h (rtOf h) = false) := by
  unfold specDefects
  simp only [List.append_eq_nil_iff, List.flatMap_eq_nil_iff, List.map_eq_nil_iff, List.filter_eq_nil_iff, fieldTags,
    ite_singleton_eq_nil, Bool.not_eq_true', Bool.not_eq_false, and_assoc]

theorem typeFieldOf_add (h : Fields) (n v : Bytes) (hwt : lowerKey n ≠ bs "warc-type") : typeFieldOf (h.add n v) = typeFieldOf h := by
  unfold typeFieldOf Fields.add
  rw [List.find?_append]
  cases h.find? (fun nv => lowerKey nv.1 == bs "warc-type") with
  | some x => rfl
  | none =>
    have : (lowerKey n == bs "warc-type") = false := by simpa using hwt
    simp [List.find?, lowerKey_canon, this]

theorem specDefects_add (Ω : Oracles) (ver : Nat) (h : Fields) (n v : Bytes)
    (hfresh : h.has n = false) (hwt : lowerKey n ≠ bs "warc-type")
    (hcl : canon (bs "Content-Length") ≠ canon n) (hct : canon (bs "Content-Type") ≠ canon n)
    (hcc : canon (bs "WARC-Concurrent-To") ≠ canon n)
    (hgood : ∀ rt, (rt = 0 ∨ rt &&& 255 ≠ 0) → fieldBad Ω ver rt (defOf (canon n)) v = false)
    (hd : specDefects Ω ver h = []) : specDefects Ω ver (h.add n v) = [] := by
  rw [specDefects_nil_iff] at hd ⊢
  obtain ⟨h1, h2, h3, h4⟩ := hd
  have hrt : rtOf (h.add n v) = rtOf h := by unfold rtOf; rw [typeFieldOf_add h n v hwt]
  -- no entry of `h` has the new key: the new field is the only one of its name, and no old field gains a twin
  have hnone : ∀ m, canon m = canon n → h.getAll m = [] := by
    intro m hm
    have : h.getAll n = [] := by simpa [has_eq_getAll] using hfresh
    unfold Fields.getAll at this ⊢
    rw [hm]; exact this
  rw [hrt]
  refine ⟨fun nv hnv => ?_, fun f hf => by rw [has_add, h2 f hf]; rfl, ?_, ?_⟩
  · rw [getAll_add]
    rcases List.mem_append.mp hnv with hm | hm
    · obtain ⟨a, b⟩ := h1 nv hm
      refine ⟨a, ?_⟩
      split
      · next hk => simp [hnone _ hk]
      · rw [List.append_nil]; exact b
    · rw [List.mem_singleton.mp hm]
      exact ⟨hgood _ (recTypeOfName_range _), by simp [hnone _ (canon_idem n), canon_idem]⟩
  · unfold ctRule contentLengthOf at h3 ⊢
    rw [has_add_other hcl, get_add_other hcl, has_add_other hct]; exact h3
  · unfold concRule at h4 ⊢
    rw [has_add_other hcc]; exact h4

/-- the two digest fields as keys: different from every field the header rules and ValidateDigest ask for -/
theorem digest_field_keys {n : Bytes} (hn : n ∈ [bs "WARC-Block-Digest", bs "WARC-Payload-Digest"]) :
    canon n = n ∧ canon (bs "Content-Length") ≠ canon n ∧ canon (bs "Content-Type") ≠ canon n ∧
    canon (bs "WARC-Concurrent-To") ≠ canon n ∧ canon (bs "WARC-Segment-Number") ≠ canon n := by
  simp only [List.mem_cons, List.not_mem_nil, or_false] at hn
  rcases hn with rfl | rfl
  · exact ⟨Names.canon_BD, Names.CL_ne_BD, Names.CT_ne_BD, Names.CC_ne_BD, Names.Seg_ne_BD⟩
  · exact ⟨Names.canon_PD, Names.CL_ne_PD, Names.CT_ne_PD, Names.CC_ne_PD, Names.Seg_ne_PD⟩

/-- the definition a name of the generated table gets is its row: the keys of the table are pairwise different
    (`fieldTable_facts`). Looking a concrete name up by evaluation instead turns the names of all rows before it into bytes. -/
theorem defOf_of_table {d : FieldDef} {n : Bytes} (h : d ∈ Gen.fieldDefs) (hd : n = bs d.name) : defOf n = d := by
  subst hd
  have hn := fieldTable_facts.1
  have hk := fieldTable_facts.2.2
  unfold defOf lookupDef
  generalize Gen.fieldDefs = l at h hn hk
  rw [beq_iff_eq.mp (List.all_eq_true.mp hk d h), find?_of_nodup_map _ l d hn h]

/-- the rows of the two digest fields in the generated table: validator `pDigest` (for which `Gen.validators` has
    `(true, "none")`: the field is checked for legality, its value is not), not repeatable, legal on all eight record
    types (mask 255), defined by both versions (mask 3) -/
theorem digest_rows : ∀ nm ∈ ["WARC-Block-Digest", "WARC-Payload-Digest"],
    Gen.fieldDefs.find? (·.name == nm) = some ⟨nm, "pDigest", false, 255, 3⟩ := by decide +kernel

theorem defOf_digest {n : Bytes} (hn : n ∈ [bs "WARC-Block-Digest", bs "WARC-Payload-Digest"]) :
    ∃ nm, defOf n = ⟨nm, "pDigest", false, 255, 3⟩ := by
  simp only [List.mem_cons, List.not_mem_nil, or_false] at hn
  rcases hn with rfl | rfl
  · exact ⟨_, defOf_of_table (List.mem_of_find?_eq_some (digest_rows _ (by simp))) rfl⟩
  · exact ⟨_, defOf_of_table (List.mem_of_find?_eq_some (digest_rows _ (by simp))) rfl⟩

/-- the two digest fields are harmless: legal on every record type, no value check -/
theorem digest_field_facts (Ω : Oracles) (ver : Nat) (v : Bytes) :
    ∀ n ∈ [bs "WARC-Block-Digest", bs "WARC-Payload-Digest"],
      lowerKey n ≠ bs "warc-type" ∧ ∀ rt, (rt = 0 ∨ rt &&& 255 ≠ 0) → fieldBad Ω ver rt (defOf n) v = false := by
  intro n hn
  have hwt : ∀ m ∈ [bs "WARC-Block-Digest", bs "WARC-Payload-Digest"], lowerKey m ≠ bs "warc-type" := by decide +kernel
  refine ⟨hwt n hn, fun rt hrt => ?_⟩
  obtain ⟨nm, hrow⟩ := defOf_digest hn
  have hv : validatorOf ⟨nm, "pDigest", false, 255, 3⟩ = (true, "none") := by
    unfold validatorOf; dsimp only; decide +kernel
  have hval : valueOk Ω "none" v = true := rfl
  -- the only arm of `fieldBad` left that reports is "illegal on this record type", and the mask holds every type
  have hmask : rt ≠ 0 → (rt &&& 255 == 0) = false := fun hz => by simpa using hrt.resolve_left hz
  by_cases hz : rt = 0
  · simp [fieldBad, hrow, hv, hval, hz]
  · simp [fieldBad, hrow, hv, hval, hz, hmask hz]

/-- setting a digest field that the header does not have keeps the header free of defects -/
theorem specDefects_set_digest (Ω : Oracles) (ver : Nat) (h : Fields) (n v : Bytes)
    (hn : n ∈ [bs "WARC-Block-Digest", bs "WARC-Payload-Digest"]) (habs : h.has n = false)
    (hd : specDefects Ω ver h = []) : specDefects Ω ver (h.set n v) = [] := by
  rw [set_of_not_has h n v habs]
  obtain ⟨hc, hcl, hct, hcc, -⟩ := digest_field_keys hn
  obtain ⟨hwt, hgood⟩ := digest_field_facts Ω ver v n hn
  exact specDefects_add Ω ver h n v habs hwt hcl hct hcc (by rw [hc]; exact hgood) hd

/-! ### validateHeader is silent on a header set without defects -/

/-- the header names a type, the reader's unknown-type axis lets it pass silently, and the set has no spec-axis defect -/
def HdrOK (op : Opts) (Ω : Oracles) (vid : Nat) (h : Fields) : Prop :=
  (typeFieldOf h).isEmpty = false ∧ (rtOf h = 0 → op.unk = .ignore) ∧ specDefects Ω vid h = []

theorem validateHeader_silent (op : Opts) (Ω : Oracles) (vid : Nat) (h : Fields) (f : List Tag) (hok : HdrOK op Ω vid h) :
    validateHeader op Ω vid ⟨h, f⟩ = (.ok (rtOf h), ⟨h, f⟩) := by
  obtain ⟨ht, hu, hd⟩ := hok
  -- of the three reports two have nothing to report, and an unknown type is reported under `ignore`
  have hunk : report op.unk (if rtOf h == 0 then [.hdrUnknownType] else []) ⟨h, f⟩ = (.ok (), ⟨h, f⟩) := by
    cases hz : rtOf h == 0
    · exact report_nil _ _
    · rw [hu (by simpa using hz)]; rfl
  rw [validateHeader_eq]
  simp only [M.bind_def, M.hdr_def, ht, hd, Bool.false_eq_true, ↓reduceIte, report_nil, hunk, M.pure_def]

/-! ### digests -/

variable (H : Alg → Bytes → Bytes)

/-- when the per-field digest check neither reports nor rewrites -/
def SilentDigest (o : Opts) (d : Digest) (data : Bytes) : Prop :=
  (d.hash = [] ∧ o.addMissingDigest = false) ∨ (d.hash ≠ [] ∧ d.valid H data = true)

theorem checkDigest_silent (o : Opts) (field : Bytes) (tag : Tag) (d : Digest) (data : Bytes) (s : St)
    (h : SilentDigest H o d data) : checkDigest H o field tag d data s = (.ok (), s) := by
  rcases h with ⟨he, ha⟩ | ⟨hne, hv⟩
  · simp [checkDigest, he, ha]
  · exact checkDigest_complete H o field tag d data s hne hv

theorem encChain_ne (l n : Nat) (dflt : Enc) (h : dflt ≠ .unknown) :
    (if l == n * 2 then Enc.b16 else if l == b32EncodedLen n then Enc.b32 else if l == b64EncodedLen n then Enc.b64 else dflt) ≠ .unknown := by
  split
  · simp
  · split
    · simp
    · split
      · simp
      · exact h

theorem detectEncoding_ne_unknown (a hsh : Bytes) (dflt : Enc) (h : dflt ≠ .unknown) : detectEncoding a hsh dflt ≠ .unknown := by
  unfold detectEncoding
  split
  · split <;> simp
  · exact encChain_ne _ _ _ h

theorem newDigest_enc {s : Bytes} {dflt : Enc} {d : Digest} (hd : dflt ≠ .unknown) (h : newDigest s dflt = some d) : d.enc ≠ .unknown := by
  rw [(digestOf_some (newDigest_eq s dflt ▸ h)).2.1]
  exact detectEncoding_ne_unknown _ _ _ hd

/-- a digest field written by the builder from a default digest object is silently accepted by every reader -/
theorem written_digest_silent {o : Opts} (op : Opts) {d0 : Digest} (data : Bytes) (hd0 : newDigest o.defaultAlg o.defaultEnc = some d0)
    (henc : o.defaultEnc ≠ .unknown) (hH : ∀ a x, (H a x).length = a.size) :
    ∃ d', newDigest (d0.format H data) op.defaultEnc = some d' ∧ SilentDigest H op d' data := by
  obtain ⟨d', h1, h2, h3⟩ := C03_format_reparse H d0 (newDigest_name _ _ _ hd0) (newDigest_enc henc hd0) data (hH _ _) op.defaultEnc
  exact ⟨d', h1, Or.inr ⟨h2, h3⟩⟩

/-- what the strict parse of a warc-fields block implies for every other syntax policy: same fields, no findings -/
theorem parseFields_of_fail (p : Pol) {s : Stream} {fs : Fields} {fnd : List Tag} {s' : Stream}
    (h : parseFields .fail s = .ok fs fnd s') : fnd = [] ∧ parseFields p s = .ok fs [] s' := by
  have hf : fnd = [] := parseFields_ok_nofind h (by decide)
  obtain ⟨fL, h1, h2⟩ := parseFields_le p.le_fail h
  rw [h2 hf] at h1
  exact ⟨hf, h1⟩

/-- the content passes every check its constructor makes, whatever the policy: an HTTP head that is terminated and that
    net/http accepts, a warc-fields block the strict header parser accepts -/
def CleanContent (Ω : Oracles) (c : Bytes) : BlockCtor → Prop
  | .http => decide (c.length < 4) = false ∧ (headerBytes c).2.2 = true ∧
      Ω.http (hasPrefix (bs "HTTP") (headerBytes c).1) (headerBytes c).1 = true
  | .warcFields => ∃ fs fnd st, parseFields .fail ⟨c, false⟩ = .ok fs fnd st
  | _ => True

theorem newHttpBlock_clean (o : Opts) {Ω : Oracles} {c : Bytes} (bd pd : Digest) (s : St) (h : CleanContent Ω c .http) :
    newHttpBlock o Ω c bd pd s = (.ok (plainBlock .http 0 c bd pd), s) := by
  unfold newHttpBlock
  simp only [M.bind_def, h.1, condFail_false, h.2.1, Bool.not_true, condSite_false, Bool.false_and, Bool.false_eq_true, ↓reduceIte,
    M.hdr_def, M.setHdr_def, h.2.2, M.pure_def, headerBytes_append, plainBlock]

theorem newWarcFieldsBlock_clean (o : Opts) {c : Bytes} (bd : Digest) (s : St) (h : CleanContent Ω c .warcFields) :
    newWarcFieldsBlock o c false bd s = (.ok (plainBlock .warcFields 0 c bd bd), s) := by
  obtain ⟨fs, fnd, st, hparse⟩ := h
  obtain ⟨_, hp⟩ := parseFields_of_fail o.syn hparse
  obtain ⟨_, hw⟩ := parseFields_of_fail .warn hparse
  obtain ⟨_, hi⟩ := parseFields_of_fail .ignore hparse
  unfold newWarcFieldsBlock
  simp only [M.bind_def, condSite_false, hp, wfFinish_eq, ParseRes.findings, List.map_nil, report_nil, M.pure_def, wfBlockOf,
    List.isEmpty_nil, Bool.not_true, Bool.and_false, Bool.false_eq_true, ↓reduceIte]
  split
  · unfold wfDetectFix; simp only [hw, hi, List.isEmpty_nil, Bool.not_true, Bool.false_eq_true, ↓reduceIte]; rfl
  · rfl

/-- clean content is taken silently, as given, under every policy -/
theorem parseBlock_clean (o : Opts) {Ω : Oracles} {rt : Nat} {c : Bytes} {s : St} {bd pd : Digest}
    (hc : CleanContent Ω c (blockCtor o rt s.hdr)) (hbd : digestOfField o s.hdr (bs "WARC-Block-Digest") = some bd)
    (hpd : digestOfField o s.hdr (bs "WARC-Payload-Digest") = some pd) :
    parseBlock o Ω rt c false s = (.ok (plainBlock (blockCtor o rt s.hdr) rt c bd pd), s) := by
  rw [parseBlock_run]
  simp only [hbd, hpd]
  generalize blockCtor o rt s.hdr = k at hc
  cases k with
  | http => exact newHttpBlock_clean o bd pd s hc
  | warcFields => exact newWarcFieldsBlock_clean o bd s hc
  | _ => rfl

/-- what a strict builder accepted is clean -/
theorem parseBlock_strict_ok {o : Opts} {Ω : Oracles} {rt : Nat} {c : Bytes} {s s' : St} {b : Block}
    (hsyn : o.syn = .fail) (hblk : o.blk = .fail) (h : parseBlock o Ω rt c false s = (.ok b, s')) :
    CleanContent Ω c (blockCtor o rt s.hdr) := by
  rw [parseBlock_run] at h
  split at h
  · generalize blockCtor o rt s.hdr = k at h
    cases k with
    | http =>
      obtain ⟨-, -, hlen, hfound, hhttp⟩ := newHttpBlock_ok h
      have := hhttp hblk
      simp only [httpHead, hfound hsyn, Bool.not_true, Bool.false_and, Bool.false_eq_true, ↓reduceIte] at this
      exact ⟨hlen, hfound hsyn, this⟩
    | warcFields => have := (newWarcFieldsBlock_ok h).2.2.1; rwa [hsyn] at this
    | _ => trivial
  · cases h

/-- **the block a strict builder accepted is accepted silently by every reader**: same bytes, same shape -/
theorem parseBlock_reaccept (ob op : Opts) (Ω : Oracles) (rt : Nat) (content : Bytes) (sb sb' : St) (b : Block)
    (hsyn : ob.syn = .fail) (hblk : ob.blk = .fail) (hskip : op.skipParseBlock = ob.skipParseBlock)
    (hrun : parseBlock ob Ω rt content false sb = (.ok b, sb'))
    (hp : Fields) (f : List Tag) (hct : hp.get (bs "Content-Type") = sb.hdr.get (bs "Content-Type"))
    (bd pd : Digest) (hbd : digestOfField op hp (bs "WARC-Block-Digest") = some bd)
    (hpd : digestOfField op hp (bs "WARC-Payload-Digest") = some pd) :
    sb' = sb ∧ b.raw = content ∧
    (∃ bd0 pd0, digestOfField ob sb.hdr (bs "WARC-Block-Digest") = some bd0 ∧ digestOfField ob sb.hdr (bs "WARC-Payload-Digest") = some pd0 ∧
       b.blockDigest = bd0 ∧ (b.payloadDigest = none ∨ b.payloadDigest = some pd0)) ∧
    ∃ b', parseBlock op Ω rt content false ⟨hp, f⟩ = (.ok b', ⟨hp, f⟩) ∧ b'.raw = content ∧ b'.headLen = b.headLen ∧ b'.kind = b.kind ∧
          b'.blockDigest = bd ∧ b'.payloadDigest = b.payloadDigest.map (fun _ => pd) := by
  have hc := parseBlock_strict_ok hsyn hblk hrun
  obtain ⟨bd0, pd0, hbd0, hpd0, -⟩ := parseBlock_ok hrun
  rw [parseBlock_clean ob hc hbd0 hpd0] at hrun
  cases hrun
  -- the reader dispatches to the constructor the builder used
  have hk : blockCtor op rt hp = blockCtor ob rt sb.hdr := by unfold blockCtor; rw [hskip, hct]
  have hb' := parseBlock_clean op (s := ⟨hp, f⟩) (hk ▸ hc) hbd hpd
  rw [hk] at hb'
  refine ⟨rfl, ?_, ⟨bd0, pd0, hbd0, hpd0, ?_, ?_⟩, _, hb', ?_⟩ <;> cases blockCtor ob rt sb.hdr <;> simp [plainBlock]
  exact (Decidable.em _).symm

/-! ### ValidateDigest: what the strict builder leaves, and when a reader is silent -/

/-- the header the builder ends with when the caller supplied no digest fields: block digest set, payload digest set
    where ValidateDigest looks at one -/
def finalHdr (rt : Nat) (b : Block) (h : Fields) : Fields :=
  if rt == RT_Revisit || (h.set (bs "WARC-Block-Digest") (b.blockDigest.format H b.raw)).has (bs "WARC-Segment-Number") then
    h.set (bs "WARC-Block-Digest") (b.blockDigest.format H b.raw)
  else match b.payloadDigest with
    | some pd => (h.set (bs "WARC-Block-Digest") (b.blockDigest.format H b.raw)).set (bs "WARC-Payload-Digest") (pd.format H b.payload)
    | none => h.set (bs "WARC-Block-Digest") (b.blockDigest.format H b.raw)

/-- the same header as one `Set` and one conditional `Set` -/
theorem finalHdr_eq (rt : Nat) (b : Block) (h : Fields) :
    finalHdr H rt b h = (h.set (bs "WARC-Block-Digest") (b.blockDigest.format H b.raw)).setIf
      (!(rt == RT_Revisit || (h.set (bs "WARC-Block-Digest") (b.blockDigest.format H b.raw)).has (bs "WARC-Segment-Number")) &&
        b.payloadDigest.isSome)
      (bs "WARC-Payload-Digest") (match b.payloadDigest with | some pd => pd.format H b.payload | none => []) := by
  unfold finalHdr
  split
  · next hs => simp [hs]
  · next hs => cases b.payloadDigest <;> simp [hs]

theorem validateDigest_strict_fresh (ob : Opts) (rt : Nat) (b : Block) (s s' : St)
    (hspec : ob.spec = .fail) (hadd : ob.addMissingDigest = true)
    (hbe : b.blockDigest.hash = []) (hpe : ∀ pd, b.payloadDigest = some pd → pd.hash = [])
    (hcl : s.hdr.has (bs "Content-Length") = true)
    (h : validateDigest H ob rt b false s = (.ok (), s')) :
    s'.fnd = s.fnd ∧ s.hdr.get (bs "Content-Length") = natToDec b.raw.length ∧ s'.hdr = finalHdr H rt b s.hdr := by
  obtain ⟨e, -, hlb, hf⟩ := validateDigest_ok H h
  have hlen : s.hdr.get (bs "Content-Length") = natToDec b.raw.length := by
    have := hlb hspec
    simp only [lengthBad, hspec, hcl, Bool.and_true, Bool.and_eq_false_iff, bne_eq_false_iff_eq] at this
    exact (this.resolve_left (by decide)).symm
  refine ⟨hf (by rw [hspec]; decide), hlen, ?_⟩
  rw [e]
  unfold validatedHdr finalHdr afterBlockDigest
  rw [hlb hspec, digestWrites_missing H _ hbe hadd]
  simp only [Bool.false_and, Fields.setIf_false, Fields.setIf_true]
  split
  · rfl
  · cases hpd : b.payloadDigest with
    | none => rfl
    | some pd => simp only [digestWrites_missing H _ (hpe pd hpd) hadd, Fields.setIf_true]

theorem validateDigest_silent (op : Opts) (rt : Nat) (b : Block) (hp : Fields) (f : List Tag)
    (hcl : hp.get (bs "Content-Length") = natToDec b.raw.length)
    (hbd : SilentDigest H op b.blockDigest b.raw)
    (hpd : (rt == RT_Revisit || hp.has (bs "WARC-Segment-Number")) = false → ∀ pd, b.payloadDigest = some pd → SilentDigest H op pd b.payload) :
    validateDigest H op rt b false ⟨hp, f⟩ = (.ok (), ⟨hp, f⟩) := by
  unfold validateDigest
  have hlb : lengthBad op hp b = false := by
    unfold lengthBad; rw [hcl]; simp
  simp only [M.bind_def, Bool.false_and, condFail_false, M.hdr_def, hlb, condSite_false, Bool.false_eq_true, ↓reduceIte,
    M.setHdr_def, checkDigest_silent H op _ _ _ _ _ hbd]
  by_cases hsk : (rt == RT_Revisit || hp.has (bs "WARC-Segment-Number")) = true
  · simp [hsk]
  · have hsk' : (rt == RT_Revisit || hp.has (bs "WARC-Segment-Number")) = false := by simpa using hsk
    simp only [hsk', Bool.false_eq_true, ↓reduceIte]
    cases hb : b.payloadDigest with
    | none => rfl
    | some pd => exact checkDigest_silent H op _ _ _ _ _ (hpd hsk' pd hb)

/-- `h'` is `h` with digest fields set that `h` did not have: what header validation, the framing of the block, the choice
    of the block constructor and ValidateDigest's segment test read is the same in both -/
structure AddsDigests (Ω : Oracles) (vid : Nat) (h h' : Fields) : Prop where
  contentType : h'.get (bs "Content-Type") = h.get (bs "Content-Type")
  lengthText : h'.get (bs "Content-Length") = h.get (bs "Content-Length")
  length : contentLengthOf h' = contentLengthOf h
  segment : h'.has (bs "WARC-Segment-Number") = h.has (bs "WARC-Segment-Number")
  typeField : typeFieldOf h' = typeFieldOf h
  defects : specDefects Ω vid h = [] → specDefects Ω vid h' = []

namespace AddsDigests
variable {Ω : Oracles} {vid : Nat} {h h' h'' : Fields}

theorem refl (h : Fields) : AddsDigests Ω vid h h := ⟨rfl, rfl, rfl, rfl, rfl, id⟩

theorem trans (a : AddsDigests Ω vid h h') (b : AddsDigests Ω vid h' h'') : AddsDigests Ω vid h h'' :=
  ⟨b.contentType.trans a.contentType, b.lengthText.trans a.lengthText, b.length.trans a.length, b.segment.trans a.segment,
    b.typeField.trans a.typeField, b.defects ∘ a.defects⟩

theorem rtOf (a : AddsDigests Ω vid h h') : rtOf h' = Gowarc.rtOf h := by unfold Gowarc.rtOf; rw [a.typeField]

theorem set {n : Bytes} (v : Bytes) (hn : n ∈ [bs "WARC-Block-Digest", bs "WARC-Payload-Digest"]) (habs : h.has n = false) :
    AddsDigests Ω vid h (h.set n v) := by
  obtain ⟨-, hcl, hct, -, hseg⟩ := digest_field_keys hn
  refine ⟨get_set_other hct, get_set_other hcl, ?_, has_set_other hseg, ?_,
    specDefects_set_digest Ω vid h n v hn habs⟩
  · unfold contentLengthOf; rw [has_set_other hcl, get_set_other hcl]
  · rw [set_of_not_has h n v habs]; exact typeFieldOf_add h n v (digest_field_facts Ω vid v n hn).1

theorem setIf {n : Bytes} (c : Bool) (v : Bytes) (hn : n ∈ [bs "WARC-Block-Digest", bs "WARC-Payload-Digest"])
    (habs : h.has n = false) : AddsDigests Ω vid h (h.setIf c n v) := by
  cases c
  · exact refl h
  · exact set v hn habs

end AddsDigests

end Gowarc
