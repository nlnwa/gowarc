/-
  base32 (RFC 4648 standard alphabet, padded): the decoding loop inverts the encoder, for every byte string;
  length and character set of what the encoder writes.
-/
import Gowarc.Model.Digest
import Gowarc.Lemmas.ByteDecide
namespace Gowarc

theorem b32Val_char : ∀ n : UInt8, n < 32 → b32Val (b32Char n) = some n := by decide +kernel
theorem Byte.shr3_lt (a : UInt8) : a >>> 3 < 32 := Byte.shr_lt a (by decide)
theorem Byte.and31_lt (a : UInt8) : a &&& 31 < 32 := Byte.and_lt a (by decide)
theorem b32Val_pad : b32Val 61 = none := by decide +kernel
theorem b32Char_upper : ∀ n : UInt8, n < 32 → toUpperB (b32Char n) = b32Char n := by decide +kernel
theorem b32Char_lt128 : ∀ n : UInt8, n < 32 → b32Char n < 128 := by decide +kernel

/-- a character the decoder rejects is not in the alphabet: `b32Val` is a left inverse of `b32Char` -/
theorem b32Char_ne {n c : UInt8} (hn : n < 32) (hc : b32Val c = none) : b32Char n ≠ c :=
  fun h => by have := b32Val_char n hn; rw [h, hc] at this; cases this

theorem b32Char_ne_pad (n : UInt8) (hn : n < 32) : (b32Char n == 61) = false := by simpa using b32Char_ne hn b32Val_pad

/-! ### what the encoder writes: eight characters per group, from the alphabet or `=` -/

theorem b32Group_length (g : Bytes) : (b32Group g).length = 8 := by
  unfold b32Group
  simp only [List.length_append, List.length_map, List.length_take, List.length_replicate, List.length_cons, List.length_nil]
  split <;> omega

theorem b32Group_all {P : UInt8 → Prop} (hc : ∀ n : UInt8, n < 32 → P (b32Char n)) (hp : P 61) (g : Bytes) :
    ∀ x ∈ b32Group g, P x := by
  intro x hx
  simp only [b32Group, List.mem_append, List.mem_map, List.mem_replicate] at hx
  obtain ⟨v, hv, rfl⟩ | ⟨_, rfl⟩ := hx
  · have hv := List.mem_of_mem_take hv
    simp only [List.mem_cons, List.not_mem_nil, or_false] at hv
    rcases hv with rfl | rfl | rfl | rfl | rfl | rfl | rfl | rfl
    · exact hc _ (Byte.shr3_lt _)
    all_goals exact hc _ (Byte.and31_lt _)
  · exact hp

theorem b32Group_last_pad (g : Bytes) (h0 : 0 < g.length) (h5 : g.length < 5) : (b32Group g).getLast? = some 61 := by
  unfold b32Group
  split
  case h_5 h1 h2 h3 h4 =>
    have : g.length ≠ 1 ∧ g.length ≠ 2 ∧ g.length ≠ 3 ∧ g.length ≠ 4 := ⟨h1, h2, h3, h4⟩
    omega
  all_goals rw [List.getLast?_append]; rfl

/-- the clause of `b32Enc` for the rest applies to one to four bytes -/
theorem b32_rest_length {g : Bytes} (h1 : g = [] → False) (h2 : ∀ a b c d e rest, g = a :: b :: c :: d :: e :: rest → False) :
    0 < g.length ∧ g.length < 5 := by
  match g, h1, h2 with
  | [], h1, _ => exact absurd rfl h1
  | [_], _, _ | [_, _], _, _ | [_, _, _], _, _ | [_, _, _, _], _, _ => simp
  | a :: b :: c :: d :: e :: rest, _, h2 => exact absurd rfl (h2 a b c d e rest)

theorem b32Enc_all {P : UInt8 → Prop} (hc : ∀ n : UInt8, n < 32 → P (b32Char n)) (hp : P 61) (b : Bytes) :
    ∀ x ∈ b32Enc b, P x := by
  fun_induction b32Enc b with
  | case1 => simp
  | case2 a b c d e rest ih => exact fun x hx => (List.mem_append.mp hx).elim (b32Group_all hc hp _ x) (ih x)
  | case3 g => exact b32Group_all hc hp g

theorem b32Enc_length (b : Bytes) : (b32Enc b).length = b32EncodedLen b.length := by
  unfold b32EncodedLen
  fun_induction b32Enc b with
  | case1 => rfl
  | case2 a b c d e rest ih => simp only [List.length_append, b32Group_length, ih, List.length_cons]; omega
  | case3 g h1 h2 => have := b32_rest_length h1 h2; rw [b32Group_length]; omega

theorem b32Enc_last_pad (b : Bytes) (h : b.length % 5 ≠ 0) : (b32Enc b).getLast? = some 61 := by
  fun_induction b32Enc b with
  | case1 => simp at h
  | case2 a b c d e rest ih =>
    have hr : rest.length % 5 ≠ 0 := by simp only [List.length_cons] at h; omega
    rw [List.getLast?_append, ih hr]; rfl
  | case3 g h1 h2 => exact b32Group_last_pad g (b32_rest_length h1 h2).1 (b32_rest_length h1 h2).2

theorem b32Enc_no_nl (b : Bytes) : (b32Enc b).filter (fun x => x != 13 && x != 10) = b32Enc b :=
  List.filter_eq_self.mpr <| b32Enc_all (b := b) (hp := by decide) fun n hn => by
    simpa using ⟨b32Char_ne hn (c := 13) (by decide), b32Char_ne hn (c := 10) (by decide)⟩

/-! ### decoding: the five bytes out of the eight 5-bit values; a missing byte counts as 0 -/
theorem b32_byte0 (a b : UInt8) : (a >>> 3) <<< 3 ||| ((a <<< 2 ||| b >>> 6) &&& 31) >>> 2 = a := by masks
theorem b32_byte1 (a b c : UInt8) :
    ((a <<< 2 ||| b >>> 6) &&& 31) <<< 6 ||| ((b >>> 1) &&& 31) <<< 1 ||| ((b <<< 4 ||| c >>> 4) &&& 31) >>> 4 = b := by masks
theorem b32_byte2 (b c d : UInt8) : ((b <<< 4 ||| c >>> 4) &&& 31) <<< 4 ||| ((c <<< 1 ||| d >>> 7) &&& 31) >>> 1 = c := by masks
theorem b32_byte3 (c d e : UInt8) :
    ((c <<< 1 ||| d >>> 7) &&& 31) <<< 7 ||| ((d >>> 2) &&& 31) <<< 2 ||| ((d <<< 3 ||| e >>> 5) &&& 31) >>> 3 = d := by masks
theorem b32_byte4 (d e : UInt8) : ((d <<< 3 ||| e >>> 5) &&& 31) <<< 5 ||| (e &&& 31) = e := by masks

section
/- the simp set of the two quantum lemmas: encoder group and decoder quantum unfolded, the alphabet decoded, the bytes rejoined -/
attribute [local simp] b32Group b32Quantum b32Pack b32Val_char b32Char_ne_pad Byte.shr3_lt Byte.and31_lt
  b32_byte0 b32_byte1 b32_byte2 b32_byte3 b32_byte4

theorem b32Quantum_full (a b c d e : UInt8) (rest : Bytes) :
    b32Quantum (b32Group [a, b, c, d, e] ++ rest) 0 [] = some ([a, b, c, d, e], rest, false) := by
  simp

/-- one to four bytes left: the characters that carry them, then padding, and the decoder stops.
    The last byte comes out by the identity of the full group with 0 for the byte that is not there. -/
theorem b32Quantum_rest (g : Bytes) (h0 : 0 < g.length) (h5 : g.length < 5) :
    ∃ pad, b32Quantum (b32Group g) 0 [] = some (g, pad, true) := by
  match g, h0, h5 with
  | [a], _, _ => exact ⟨[61, 61, 61, 61, 61], by simpa using b32_byte0 a 0⟩
  | [a, b], _, _ => exact ⟨[61, 61, 61], by simpa using b32_byte1 a b 0⟩
  | [a, b, c], _, _ => exact ⟨[61, 61], by simpa using b32_byte2 b c 0⟩
  | [a, b, c, d], _, _ => exact ⟨[], by simpa using b32_byte3 c d 0⟩
end

theorem b32Group_isEmpty (g rest : Bytes) : (b32Group g ++ rest).isEmpty = false := by
  -- a group has length 8, so it is not `[]`
  have := b32Group_length g
  cases h : b32Group g <;> simp_all

theorem b32DecLoop_enc (b : Bytes) : ∀ fuel, (b32Enc b).length < fuel → b32DecLoop fuel (b32Enc b) = some b := by
  fun_induction b32Enc b with
  | case1 => intro fuel h; cases fuel <;> simp [b32DecLoop]
  | case2 a b c d e rest ih =>
    intro fuel h
    cases fuel with
    | zero => omega
    | succ f =>
      rw [List.length_append, b32Group_length] at h
      rw [b32DecLoop, b32Group_isEmpty, b32Quantum_full]
      simp only [Bool.false_eq_true, ↓reduceIte]
      rw [ih f (by omega)]
      rfl
  | case3 g h1 h2 =>
    intro fuel h
    cases fuel with
    | zero => omega
    | succ f =>
      obtain ⟨pad, hq⟩ := b32Quantum_rest g (b32_rest_length h1 h2).1 (b32_rest_length h1 h2).2
      have hne : (b32Group g).isEmpty = false := by simpa using b32Group_isEmpty g []
      rw [b32DecLoop, hne, hq]
      rfl

end Gowarc
