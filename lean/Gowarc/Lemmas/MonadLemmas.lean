import Gowarc.Model.Record
namespace Gowarc

@[simp] theorem M.bind_def {α β} (m : M α) (f : α → M β) (s : St) :
    (m >>= f) s = match m s with
      | (.ok a, s') => f a s'
      | (.error e, s') => (.error e, s') := rfl

@[simp] theorem M.pure_def {α} (a : α) (s : St) : (pure a : M α) s = (.ok a, s) := rfl
@[simp] theorem M.hdr_def (s : St) : M.hdr s = (.ok s.hdr, s) := rfl
@[simp] theorem M.get_def (s : St) : M.get s = (.ok s, s) := rfl
@[simp] theorem M.setHdr_def (h : Fields) (s : St) : M.setHdr h s = (.ok (), { s with hdr := h }) := rfl
@[simp] theorem M.finding_def (t : Tag) (s : St) : M.finding t s = (.ok (), { s with fnd := s.fnd ++ [t] }) := rfl
@[simp] theorem M.addFindings_def (l : List Tag) (s : St) : M.addFindings l s = (.ok (), { s with fnd := s.fnd ++ l }) := rfl
@[simp] theorem M.fail_def {α} (t : Tag) (s : St) : (M.fail t : M α) s = (.error t, s) := rfl
@[simp] theorem site_ignore (t : Tag) (s : St) : site .ignore t s = (.ok (), s) := rfl
@[simp] theorem site_warn (t : Tag) (s : St) : site .warn t s = (.ok (), { s with fnd := s.fnd ++ [t] }) := rfl
@[simp] theorem site_fail (t : Tag) (s : St) : site .fail t s = (.error t, s) := rfl

@[simp] theorem condFail_false (t : Tag) (s : St) : condFail false t s = (.ok (), s) := rfl
@[simp] theorem condFail_true (t : Tag) (s : St) : condFail true t s = (.error t, s) := rfl

@[simp] theorem condSite_false (p : Pol) (t : Tag) (s : St) : condSite false p t s = (.ok (), s) := rfl
@[simp] theorem condSite_true (p : Pol) (t : Tag) (s : St) : condSite true p t s = site p t s := rfl
theorem condSite_ignore (c : Bool) (t : Tag) (s : St) : condSite c .ignore t s = (.ok (), s) := by cases c <;> rfl
theorem condSite_warn (c : Bool) (t : Tag) (s : St) :
    condSite c .warn t s = (.ok (), { s with fnd := s.fnd ++ (if c then [t] else []) }) := by cases c <;> simp
theorem condSite_fail (c : Bool) (t : Tag) (s : St) :
    condSite c .fail t s = (if c then (.error t, s) else (.ok (), s)) := by cases c <;> simp

/-- the run ended with an error -/
def exErr {α} : Except Tag α → Bool
  | .ok _ => false
  | .error _ => true

theorem bind_ok {α β} {m : M α} {f : α → M β} {s st : St} {b : β} (h : (m >>= f) s = (.ok b, st)) :
    ∃ a s', m s = (.ok a, s') ∧ f a s' = (.ok b, st) := by
  simp only [M.bind_def] at h
  cases hm : m s with
  | mk r s' =>
    rw [hm] at h
    cases r with
    | ok a => exact ⟨a, s', rfl, h⟩
    | error e => simp at h

theorem M.hdr_bind {β} (f : Fields → M β) (s : St) : (M.hdr >>= f) s = f s.hdr s := rfl
theorem M.setHdr_bind {β} (h : Fields) (f : Unit → M β) (s : St) : (M.setHdr h >>= f) s = f () ⟨h, s.fnd⟩ := rfl

theorem pure_ok {α} {a b : α} {s s' : St} (h : (pure a : M α) s = (.ok b, s')) : b = a ∧ s' = s := by
  simp only [M.pure_def, Prod.mk.injEq, Except.ok.injEq] at h
  exact ⟨h.1.symm, h.2.symm⟩

theorem condFail_ok {c : Bool} {t : Tag} {s s' : St} {u : Unit} (h : condFail c t s = (.ok u, s')) : c = false ∧ s' = s := by
  cases c
  · exact ⟨rfl, (pure_ok h).2⟩
  · cases h

theorem M.bind_pure_id {α} (m : M α) : (m >>= fun b => (pure b : M α)) = m := by
  funext s
  simp only [M.bind_def]
  cases m s with
  | mk r s' => cases r <;> rfl

end Gowarc
