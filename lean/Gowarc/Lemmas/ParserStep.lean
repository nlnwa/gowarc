/-
  One round of the header parser's loops, said once.

  `contLoop_step` / `contLoop_stop` for the continuation loop and `parseBody_tail` for the main loop state what a round
  is: a final result, or one more round on a strictly shorter stream; on the way findings are only appended, and only
  under the warn policy (`FndExt`). `TailCall` is that contract for a piece of the loop body as a function of the rest of
  the loop. Before them: `readLine` and `afterLine` on the shapes of input the proofs meet. "Findings only grow, and only
  under warn" (`parseLoop_fnd`, `parseFields_nofind`, at the end of this file), fuel adequacy and "what is left is a
  suffix" (Props/C05total.lean) are inductions over the fuel whose step is this contract.
-/
import Gowarc.Lemmas.StreamLemmas
namespace Gowarc

def ParseRes.fnd : ParseRes → List Tag
  | .ok _ f _ => f
  | .err _ f => f

def contFnd : Sum (Tag × List Tag) (Bytes × UInt8 × Bool × List Tag × Stream) → List Tag
  | .inl (_, f) => f
  | .inr (_, _, _, f, _) => f

/-- findings are only appended, and only under the warn policy -/
def FndExt (syn : Pol) (fnd fnd' : List Tag) : Prop := fnd <+: fnd' ∧ (syn ≠ .warn → fnd' = fnd)

theorem FndExt.refl (syn : Pol) (fnd : List Tag) : FndExt syn fnd fnd := ⟨List.prefix_refl _, fun _ => rfl⟩

theorem FndExt.trans {syn : Pol} {a b c : List Tag} (h1 : FndExt syn a b) (h2 : FndExt syn b c) : FndExt syn a c :=
  ⟨h1.1.trans h2.1, fun h => by rw [h2.2 h, h1.2 h]⟩

theorem FndExt.warn (fnd : List Tag) (t : Tag) : FndExt .warn fnd (fnd ++ [t]) := ⟨List.prefix_append _ _, fun h => absurd rfl h⟩

theorem FndExt.ne_of_snoc {syn : Pol} {a b : List Tag} {x : Tag} (h : FndExt syn (a ++ [x]) b) : b ≠ a := by
  intro he
  have := h.1.length_le
  rw [he, List.length_append, List.length_singleton] at this
  omega

/-! ### readLine -/

/-- no line feed is left: the line is all there is, and the error is the stream's end condition -/
theorem readLine_nolf (syn : Pol) (s : Stream) (h : LF ∉ s.rest) :
    readLine syn s = (if s.fault then ⟨[], true, 0, some .reader, []⟩ else ⟨trim isWs s.rest, trimIsNil s.rest, 0, some .eoh, []⟩) := by
  unfold readLine
  simp [readBytesNL_nolf s.rest h]

theorem readLine_empty (syn : Pol) (s : Stream) (h : s.rest = []) :
    readLine syn s = (if s.fault then ⟨[], true, 0, some .reader, []⟩ else ⟨[], false, 0, some .eoh, []⟩) := by
  rw [readLine_nolf syn s (by simp [h]), h]; rfl

/-- a line written with CR LF, whatever follows it (the reader is only asked for more when something follows) -/
theorem readLine_crlf (syn : Pol) (x rest : Bytes) (fault : Bool) (h : LF ∉ x) (hf : rest = [] → fault = false) :
    readLine syn ⟨x ++ crlf ++ rest, fault⟩ = ⟨trim isWs (x ++ crlf), trimIsNil (x ++ crlf), rest.headD 0, none, rest⟩ := by
  unfold readLine
  simp only [readBytesNL_crlf x rest h, missingCR_crlf, Bool.not_true, Bool.false_eq_true, ↓reduceIte, Bool.and_false, Bool.false_and]
  cases rest with
  | nil => simp [hf rfl]
  | cons c more => rfl

theorem readLine_rest (syn : Pol) (s : Stream) :
    (readLine syn s).rest = [] ∨ (readLine syn s).rest = (readBytesNL s.rest).2.1 := by
  unfold readLine
  cases (readBytesNL s.rest).2.2 with
  | false => cases s.fault <;> exact .inl rfl
  | true =>
    cases (syn != .ignore && missingCR (readBytesNL s.rest).1 && syn == .fail) with
    | true => exact .inr rfl
    | false =>
      cases (readBytesNL s.rest).2.1 with
      | nil => cases s.fault <;> exact .inl rfl
      | cons c more => exact .inr rfl

theorem readLine_rest_lt (syn : Pol) (s : Stream) (h : s.rest ≠ []) : (readLine syn s).rest.length < s.rest.length := by
  rcases readLine_rest syn s with e | e <;> rw [e]
  · exact List.length_pos_iff.mpr h
  · exact readBytesNL_progress s.rest h

theorem readLine_rest_le (syn : Pol) (s : Stream) : (readLine syn s).rest.length ≤ s.rest.length := by
  rcases readLine_rest syn s with e | e <;> rw [e]
  · exact Nat.zero_le _
  · exact readBytesNL_rest_le s.rest

/-! ### the continuation loop -/

theorem not_spht_of_not_ws (b : UInt8) (h : isWs b = false) : (b == SP || b == HT) = false := by
  simp only [isWs, Bool.or_eq_false_iff] at h
  simp [SP, HT, h.1.1]

theorem contLoop_stop {syn : Pol} {fuel : Nat} {line : Bytes} {nc : UInt8} {eoh : Bool} {fnd : List Tag} {s : Stream}
    (h : (nc == SP || nc == HT) = false) : contLoop syn fuel line nc eoh fnd s = .inr (line, nc, eoh, fnd, s) := by
  cases fuel with
  | zero => rfl
  | succ n => rw [contLoop, if_neg (by simp [h])]

/-- one round of the continuation loop: an error, or the same loop (one unit of fuel less) on what `readLine` left -/
theorem contLoop_step (syn : Pol) (line : Bytes) (nc : UInt8) (eoh : Bool) (fnd : List Tag) (s : Stream)
    (h : (nc == SP || nc == HT) = true) :
    (∃ e, ∀ fuel, contLoop syn (fuel + 1) line nc eoh fnd s = .inl (e, fnd)) ∨
    ∃ line' eoh' fnd', FndExt syn fnd fnd' ∧ ∀ fuel, contLoop syn (fuel + 1) line nc eoh fnd s =
      contLoop syn fuel line' (readLine syn s).nc eoh' fnd' ⟨(readLine syn s).rest, s.fault⟩ := by
  cases he : (readLine syn s).err with
  | none => exact .inr ⟨_, _, _, .refl _ _, fun _ => by rw [contLoop, if_pos h, he]⟩
  | some e =>
    by_cases hn : (readLine syn s).isNil = true
    · exact .inl ⟨_, fun _ => by rw [contLoop, if_pos h, he]; exact if_pos hn⟩
    · cases syn with
      | fail => exact .inl ⟨_, fun _ => by rw [contLoop, if_pos h, he]; exact if_neg hn⟩
      | warn => exact .inr ⟨_, _, _, .warn _ _, fun _ => by rw [contLoop, if_pos h, he]; exact if_neg hn⟩
      | ignore => exact .inr ⟨_, _, _, .refl _ _, fun _ => by rw [contLoop, if_pos h, he]; exact if_neg hn⟩

theorem contLoop_out (syn : Pol) (fuel : Nat) : ∀ (line : Bytes) (nc : UInt8) (eoh : Bool) (fnd : List Tag) (s : Stream),
    FndExt syn fnd (contFnd (contLoop syn fuel line nc eoh fnd s)) ∧
    ∀ {line' nc' eoh' fnd' s'}, contLoop syn fuel line nc eoh fnd s = .inr (line', nc', eoh', fnd', s') →
      s'.rest.length ≤ s.rest.length := by
  induction fuel with
  | zero => intro _ _ _ _ _; exact ⟨.refl _ _, fun h => by cases h; exact Nat.le_refl _⟩
  | succ f ih =>
    intro line nc eoh fnd s
    cases h : (nc == SP || nc == HT) with
    | false => rw [contLoop_stop h]; exact ⟨.refl _ _, fun h => by cases h; exact Nat.le_refl _⟩
    | true =>
      rcases contLoop_step syn line nc eoh fnd s h with ⟨e, he⟩ | ⟨_, _, _, hf, hs⟩
      · rw [he]; exact ⟨.refl _ _, fun h => by cases h⟩
      · rw [hs]
        obtain ⟨i1, i2⟩ := ih _ (readLine syn s).nc _ _ ⟨(readLine syn s).rest, s.fault⟩
        exact ⟨hf.trans i1, fun h => Nat.le_trans (i2 h) (readLine_rest_le syn s)⟩

theorem contLoop_fnd (syn : Pol) (fuel : Nat) (line : Bytes) (nc : UInt8) (eoh : Bool) (fnd : List Tag) (s : Stream) :
    FndExt syn fnd (contFnd (contLoop syn fuel line nc eoh fnd s)) := (contLoop_out syn fuel line nc eoh fnd s).1

/-! ### the main loop -/

abbrev Kont := Fields → List Tag → Stream → ParseRes

/-- one round of `parseLoop`, the recursive call abstracted -/
def parseBody (syn : Pol) (k : Kont) (wf : Fields) (fnd : List Tag) (s : Stream) : ParseRes :=
  match (readLine syn s).err with
  | none => parseRest syn k wf fnd (readLine syn s) false s.fault
  | some e =>
    if e == .reader then .err .reader fnd
    else if e == .eoh then
      (if (readLine syn s).line.isEmpty then .ok wf fnd ⟨[], s.fault⟩
       else
        match syn with
        | .fail => .err .synMissingNewline fnd
        | .warn => parseRest syn k wf (fnd ++ [.synMissingNewline]) (readLine syn s) true s.fault
        | .ignore => parseRest syn k wf fnd (readLine syn s) true s.fault)
    else
      match syn with
      | .fail => .err e fnd
      | .warn => parseRest syn k wf (fnd ++ [e]) (readLine syn s) false s.fault
      | .ignore => parseRest syn k wf fnd (readLine syn s) false s.fault

theorem parseLoop_succ (syn : Pol) (fuel : Nat) (wf : Fields) (fnd : List Tag) (s : Stream) :
    parseLoop syn (fuel + 1) wf fnd s = parseBody syn (parseLoop syn fuel) wf fnd s := rfl

/-- what a piece of the loop body `f`, given the rest of the loop `k`, can be: a final result that leaves at most `n`
    bytes, or exactly one call of `k`, on a stream of fewer than `n` bytes; either way with findings that extend `fnd` -/
inductive TailCall (syn : Pol) (fnd : List Tag) (n : Nat) (f : Kont → ParseRes) : Prop
  | done (r : ParseRes) (hf : FndExt syn fnd r.fnd) (hr : ∀ fs fd s', r = .ok fs fd s' → s'.rest.length ≤ n) (h : ∀ k, f k = r)
  | call (wf : Fields) (fnd' : List Tag) (s' : Stream) (hf : FndExt syn fnd fnd') (hs : s'.rest.length < n) (h : ∀ k, f k = k wf fnd' s')

theorem TailCall.mono {syn : Pol} {fnd0 fnd : List Tag} {n m : Nat} {f : Kont → ParseRes} (h : TailCall syn fnd n f)
    (h0 : FndExt syn fnd0 fnd) (hnm : n ≤ m) : TailCall syn fnd0 m f := by
  cases h with
  | done r hf hr h => exact .done r (h0.trans hf) (fun fs fd s' e => Nat.le_trans (hr fs fd s' e) hnm) h
  | call wf fnd' s' hf hs h => exact .call wf fnd' s' (h0.trans hf) (Nat.lt_of_lt_of_le hs hnm) h

theorem TailCall.err {syn : Pol} {fnd : List Tag} {n : Nat} (t : Tag) : TailCall syn fnd n (fun _ => .err t fnd) :=
  .done _ (.refl _ _) (fun _ _ _ e => by cases e) (fun _ => rfl)

theorem TailCall.fnd {syn : Pol} {fnd : List Tag} {n : Nat} {f : Kont → ParseRes} (h : TailCall syn fnd n f) {k : Kont}
    (hk : ∀ wf fnd s, FndExt syn fnd (k wf fnd s).fnd) : FndExt syn fnd (f k).fnd := by
  cases h with
  | done r hf _ h => rw [h]; exact hf
  | call wf fnd' s' hf _ h => rw [h]; exact hf.trans (hk _ _ _)

theorem endMarker_rest_le {nc : UInt8} {s s' : Stream} (h : endMarker nc s = some (some s')) : s'.rest.length ≤ s.rest.length := by
  have hle := readBytesNL_rest_le s.rest
  unfold endMarker at h
  split at h
  · split at h <;> cases h; exact hle
  · split at h
    · split at h <;> cases h; exact hle
    · cases h

/-! `afterLine` by the end-of-header flag and the next character -/

theorem afterLine_eoh (k : Kont) (wf : Fields) (fnd : List Tag) (nc : UInt8) (s : Stream) :
    afterLine k wf fnd nc true s = .ok wf fnd s := rfl

/-- between two lines nothing ends -/
theorem afterLine_next {k : Kont} {wf : Fields} {fnd : List Tag} {nc : UInt8} {s : Stream} (hc : isWs nc = false) :
    afterLine k wf fnd nc false s = k wf fnd s := by
  simp only [isWs, Bool.or_eq_false_iff] at hc
  simp [afterLine, endMarker, CR, LF, hc.1.2, hc.2]

theorem afterLine_cr (k : Kont) (wf : Fields) (fnd : List Tag) (s : Stream) :
    afterLine k wf fnd CR false s =
      if (readBytesNL s.rest).2.2 && (readBytesNL s.rest).1.length == 2 then .ok wf fnd ⟨(readBytesNL s.rest).2.1, s.fault⟩
      else .err .missingEofMarker fnd := by
  simp only [afterLine, endMarker, ↓reduceIte, Bool.false_eq_true]
  cases (readBytesNL s.rest).2.2 && (readBytesNL s.rest).1.length == 2 <;> rfl

theorem afterLine_tail (syn : Pol) (wf : Fields) (fnd : List Tag) (nc : UInt8) (eoh : Bool) (s : Stream) :
    TailCall syn fnd (s.rest.length + 1) (fun k => afterLine k wf fnd nc eoh s) := by
  unfold afterLine
  split
  · exact .done _ (.refl _ _) (fun _ _ _ e => by cases e; exact Nat.le_succ _) (fun _ => rfl)
  · split
    · exact .err _
    · rename_i s' hm
      exact .done _ (.refl _ _) (fun _ _ _ e => by cases e; exact Nat.le_succ_of_le (endMarker_rest_le hm)) (fun _ => rfl)
    · exact .call wf fnd s (.refl _ _) (Nat.lt_succ_self _) (fun _ => rfl)

/-- what `parseRest` does with the field line once its continuation lines are read -/
def parseField (syn : Pol) (k : Kont) (wf : Fields) (line : Bytes) (nc : UInt8) (eoh : Bool) (fnd : List Tag) (s : Stream) : ParseRes :=
  match parseLine line with
  | .inl e =>
    (match syn with
     | .fail => .err e fnd
     | .warn => afterLine k wf (fnd ++ [e]) nc eoh s
     | .ignore => afterLine k wf fnd nc eoh s)
  | .inr (n, v) => afterLine k (wf.add n v) fnd nc eoh s

abbrev LineK := Bytes → UInt8 → Bool → List Tag → Stream → ParseRes

/-- the continuation loop, and then `g` on the line it has put together -/
def contThen (syn : Pol) (fuel : Nat) (line : Bytes) (nc : UInt8) (eoh : Bool) (fnd : List Tag) (s : Stream) (g : LineK) : ParseRes :=
  match contLoop syn fuel line nc eoh fnd s with
  | .inl (e, fnd') => .err e fnd'
  | .inr (line, nc, eoh', fnd', s') => g line nc eoh' fnd' s'

theorem parseRest_eq (syn : Pol) (k : Kont) (wf : Fields) (fnd : List Tag) (lr : LineRes) (eoh fault : Bool) :
    parseRest syn k wf fnd lr eoh fault =
      contThen syn (lr.rest.length + 1) lr.line lr.nc eoh fnd ⟨lr.rest, fault⟩ (parseField syn k wf) := rfl

theorem contThen_fnd {syn : Pol} {g : LineK}
    (hg : ∀ line nc eoh fnd s, FndExt syn fnd (g line nc eoh fnd s).fnd) (fuel : Nat) (line : Bytes) (nc : UInt8) (eoh : Bool)
    (fnd : List Tag) (s : Stream) : FndExt syn fnd (contThen syn fuel line nc eoh fnd s g).fnd := by
  have h := contLoop_fnd syn fuel line nc eoh fnd s
  unfold contThen
  generalize contLoop syn fuel line nc eoh fnd s = c at h
  obtain ⟨e, f⟩ | ⟨line', nc', eoh', f, s'⟩ := c
  · exact h
  · exact h.trans (hg ..)

theorem parseField_tail (syn : Pol) (wf : Fields) (line : Bytes) (nc : UInt8) (eoh : Bool) (fnd : List Tag) (s : Stream) :
    TailCall syn fnd (s.rest.length + 1) (fun k => parseField syn k wf line nc eoh fnd s) := by
  unfold parseField
  cases parseLine line with
  | inl e => cases syn with
    | fail => exact .err _
    | warn => exact (afterLine_tail ..).mono (.warn _ _) (Nat.le_refl _)
    | ignore => exact afterLine_tail ..
  | inr nv => exact afterLine_tail ..

theorem parseRest_tail (syn : Pol) (wf : Fields) (fnd : List Tag) (lr : LineRes) (eoh fault : Bool) :
    TailCall syn fnd (lr.rest.length + 1) (fun k => parseRest syn k wf fnd lr eoh fault) := by
  simp only [parseRest_eq, contThen]
  have hfc := contLoop_fnd syn (lr.rest.length + 1) lr.line lr.nc eoh fnd ⟨lr.rest, fault⟩
  cases hc : contLoop syn (lr.rest.length + 1) lr.line lr.nc eoh fnd ⟨lr.rest, fault⟩ with
  | inl e => obtain ⟨t, f⟩ := e; rw [hc] at hfc; exact .done (.err t f) hfc (fun _ _ _ e => by cases e) (fun _ => rfl)
  | inr v =>
    rw [hc] at hfc
    exact (parseField_tail ..).mono hfc (Nat.succ_le_succ ((contLoop_out ..).2 hc))

/-- **one round of the main loop** is a final result that leaves a suffix of the stream, or one more round on a
    strictly shorter stream -/
theorem parseBody_tail (syn : Pol) (wf : Fields) (fnd : List Tag) (s : Stream) :
    TailCall syn fnd s.rest.length (fun k => parseBody syn k wf fnd s) := by
  unfold parseBody
  by_cases hs : s.rest = []
  · rw [readLine_empty syn s hs]
    cases s.fault
    · exact .done _ (.refl _ _) (fun _ _ _ e => by cases e; exact Nat.zero_le _) (fun _ => rfl)
    · exact .err _
  · have hpr : ∀ wf' fnd' eoh, FndExt syn fnd fnd' →
        TailCall syn fnd s.rest.length (fun k => parseRest syn k wf' fnd' (readLine syn s) eoh s.fault) :=
      fun _ _ _ hf => (parseRest_tail ..).mono hf (readLine_rest_lt syn s hs)
    cases (readLine syn s).err with
    | none => exact hpr _ _ _ (.refl _ _)
    | some e =>
      simp only
      split
      · exact .err _
      · split
        · split
          · exact .done _ (.refl _ _) (fun _ _ _ e => by cases e; exact Nat.zero_le _) (fun _ => rfl)
          · cases syn with
            | fail => exact .err _
            | warn => exact hpr _ _ _ (.warn _ _)
            | ignore => exact hpr _ _ _ (.refl _ _)
        · cases syn with
          | fail => exact .err _
          | warn => exact hpr _ _ _ (.warn _ _)
          | ignore => exact hpr _ _ _ (.refl _ _)

theorem parseLoop_fnd (syn : Pol) (fuel : Nat) : ∀ (wf : Fields) (fnd : List Tag) (s : Stream),
    FndExt syn fnd (parseLoop syn fuel wf fnd s).fnd := by
  induction fuel with
  | zero => intro _ _ _; exact .refl _ _
  | succ f ih => intro wf fnd s; exact (parseBody_tail syn wf fnd s).fnd ih

theorem parseFields_nofind (syn : Pol) (hs : syn ≠ .warn) (s : Stream) : (parseFields syn s).fnd = [] :=
  (parseLoop_fnd syn _ _ _ _).2 hs

theorem parseFields_ok_nofind {p : Pol} {s : Stream} {fs : Fields} {f : List Tag} {s' : Stream}
    (h : parseFields p s = .ok fs f s') (hp : p ≠ .warn) : f = [] := by
  have := parseFields_nofind p hp s
  rwa [h] at this

end Gowarc
