/-
  The spill buffer of internal/diskbuffer against one byte list: the lemmas behind Props/C14.lean.

  Three definitions here are part of what C14 states: `Buf.data` (the abstraction: memory followed by the file),
  `Buf.Inv` (the invariant) and `specLine` (what a line read returns on plain data).

  Reads at an offset are reads of `b.data`; `readAt_append` is how the memory read and the file read are stitched. The
  three line reads (the disk loop, `Buf.readBytes`, the 100-byte loop of a slice) each look at a first chunk of what is
  left and go on behind it if the delimiter is not in it: `specLine_split` is that step for `specLine`.
-/
import Gowarc.Model.Buffer
import Gowarc.Spec.ByteBuffer
namespace Gowarc
open Spec

/-- abstraction: the buffer's contents -/
def Buf.data (b : Buf) : Bytes := b.mem ++ b.file.getD []

/-- memory never exceeds the threshold; the temp file exists exactly when memory is full -/
structure Buf.Inv (b : Buf) : Prop where
  pos : 0 < b.max
  le : b.mem.length ≤ b.max
  file_iff : b.file.isSome ↔ b.mem.length = b.max

theorem Buf.inv_new (max : Nat) (h : 0 < max) : (Buf.new max).Inv :=
  ⟨h, by simp [Buf.new], by simp [Buf.new]; omega⟩

theorem Buf.Inv.withOff {b : Buf} (h : b.Inv) (o : Nat) : ({ b with off := o } : Buf).Inv := ⟨h.pos, h.le, h.file_iff⟩

theorem Buf.data_none {b : Buf} (h : b.file = none) : b.data = b.mem := by simp [Buf.data, h]

theorem Buf.data_some {b : Buf} {f : Bytes} (h : b.file = some f) : b.data = b.mem ++ f := by simp [Buf.data, h]

theorem Buf.size_eq (b : Buf) : b.size = b.data.length := by
  unfold Buf.size Buf.data Buf.memLen Buf.fileLen
  cases b.file <;> simp

theorem Buf.Inv.cases {b : Buf} (h : b.Inv) :
    (b.mem.length < b.max ∧ b.file = none) ∨ (b.mem.length = b.max ∧ ∃ f, b.file = some f) := by
  cases hf : b.file with
  | none =>
    have hi := h.file_iff; have := h.le
    simp only [hf, Option.isSome_none, Bool.false_eq_true, false_iff] at hi
    exact Or.inl ⟨by omega, rfl⟩
  | some f => exact Or.inr ⟨h.file_iff.mp (by simp [hf]), f, rfl⟩

theorem Buf.write_off (b : Buf) (p : Bytes) : (b.write p).off = b.off := by
  unfold Buf.write; split <;> split <;> rfl

theorem Buf.write_data (b : Buf) (p : Bytes) (h : b.Inv) : (b.write p).data = b.data ++ p := by
  unfold Buf.write Buf.data Buf.memHasSpace Buf.memLen
  rcases h.cases with ⟨hs, hnone⟩ | ⟨hfull, f, hf⟩
  · simp only [hs, decide_true, ↓reduceIte, hnone]
    split
    · next hlt =>
      have : p.length ≤ b.max - b.mem.length := by
        simp only [List.length_append, List.length_take] at hlt; omega
      simp [List.take_of_length_le this]
    · simp [List.append_assoc]
  · simp [hfull, hf, List.append_assoc]

theorem Buf.write_inv (b : Buf) (p : Bytes) (h : b.Inv) : (b.write p).Inv := by
  unfold Buf.write Buf.memHasSpace Buf.memLen
  rcases h.cases with ⟨hs, hnone⟩ | ⟨hfull, f, hf⟩
  · simp only [hs, decide_true, ↓reduceIte]
    split
    · next hlt => exact ⟨h.pos, by simp; omega, by simp only [hnone]; simp at hlt ⊢; omega⟩
    · next hge => exact ⟨h.pos, by simp; omega, by simp at hge ⊢; omega⟩
  · simp only [hfull, Nat.lt_irrefl, decide_false, Bool.false_eq_true, ↓reduceIte, hf]
    exact ⟨h.pos, h.le, by simp [hfull]⟩

/-- the end test of memBuffer.read, fileBuffer.read and the disk loop -/
theorem atEnd_eq (len off : Nat) : (len == 0 || decide (off ≥ len)) = decide (len ≤ off) := by
  by_cases h : len ≤ off <;> simp [h] <;> omega

theorem readAt_past (data : Bytes) (off n : Nat) (h : data.length ≤ off) : SBuf.readAt data off n = ([], n != 0) := by
  unfold SBuf.readAt
  rw [List.drop_of_length_le h]
  cases n <;> simp

theorem partRead_spec (data : Bytes) (off n : Nat) : Buf.partRead data off n = SBuf.readAt data off n := by
  unfold Buf.partRead
  rw [atEnd_eq]
  by_cases h : data.length ≤ off
  · simp [h, readAt_past data off n h]
  · simp [h, SBuf.readAt]

/-- the pure stitching law: reading from `a ++ c` is reading from `a` and, if that came back short, continuing in `c` -/
theorem readAt_append (a c : Bytes) (off n : Nat) :
    SBuf.readAt (a ++ c) off n =
      if (SBuf.readAt a off n).2 then
        ((SBuf.readAt a off n).1 ++ (SBuf.readAt c (off + (SBuf.readAt a off n).1.length - a.length) (n - (SBuf.readAt a off n).1.length)).1,
         (SBuf.readAt c (off + (SBuf.readAt a off n).1.length - a.length) (n - (SBuf.readAt a off n).1.length)).2)
      else SBuf.readAt a off n := by
  unfold SBuf.readAt
  simp only [decide_eq_true_eq, List.drop_append, List.take_append, List.length_take, List.length_drop, List.length_append]
  split
  · next hshort =>
    have hm : min n (a.length - off) = a.length - off := by omega
    have ho : off + (a.length - off) - a.length = off - a.length := by omega
    simp only [hm, ho]
    exact Prod.ext rfl (by simp only [decide_eq_decide]; omega)
  · next hfull =>
    have h0 : n - (a.length - off) = 0 := by omega
    simp only [h0, List.take_zero, List.append_nil]
    exact Prod.ext rfl (by simp only [decide_eq_decide]; omega)

/-- **reads stitch memory and file correctly**: reading `n` bytes at any offset gives exactly what the plain
    buffer gives, including the end-of-data signal. -/
theorem Buf.readAt_spec (b : Buf) (off n : Nat) : b.readAt off n = SBuf.readAt b.data off n := by
  unfold Buf.readAt
  rw [Buf.size_eq]
  by_cases hsz : b.data.length ≤ off
  · simp only [hsz, ↓reduceIte, readAt_past _ off n hsz]
  · simp only [hsz, ↓reduceIte]
    unfold Buf.memRead Buf.fileRead Buf.memLen
    simp only [partRead_spec]
    cases hf : b.file with
    | none => simp [Buf.data_none hf]
    | some f =>
      rw [Buf.data_some hf, readAt_append]
      by_cases hs : (SBuf.readAt b.mem off n).2 = true
      · -- the plain buffer's flag is by definition "fewer bytes than asked for"
        have hgt : decide (n > (SBuf.readAt b.mem off n).1.length) = true := hs
        simp [hs, hgt]
      · simp [hs]

theorem Buf.read_spec (b : Buf) (n : Nat) :
    b.read n = (SBuf.readAt b.data b.off n, { b with off := b.off + (SBuf.readAt b.data b.off n).1.length }) := by
  unfold Buf.read; rw [Buf.readAt_spec]

theorem Buf.peek_spec (b : Buf) (n : Nat) : b.peek n = SBuf.readAt b.data b.off n := Buf.readAt_spec b b.off n

/-- the plain buffer signals end-of-data only when nothing remains, and always when a non-empty request returns nothing -/
theorem readAt_eof_sound (data : Bytes) (off n : Nat) :
    ((SBuf.readAt data off n).2 = true → data.length ≤ off + (SBuf.readAt data off n).1.length) ∧
    ((SBuf.readAt data off n).1 = [] → 0 < n → (SBuf.readAt data off n).2 = true) := by
  unfold SBuf.readAt
  simp only [decide_eq_true_eq, List.length_take, List.length_drop]
  refine ⟨fun h => by omega, fun he hn => ?_⟩
  have : ((data.drop off).take n).length = 0 := by rw [he]; rfl
  simp at this; omega

theorem readAt_drop (data : Bytes) (k off n : Nat) : SBuf.readAt (data.drop k) off n = SBuf.readAt data (k + off) n := by
  simp only [SBuf.readAt, List.drop_drop]

theorem view_length (data : Bytes) (soff : Nat) (len : Option Nat) :
    (SBuf.view data soff len).length = match len with | none => data.length - soff | some l => min l (data.length - soff) := by
  cases len <;> simp [SBuf.view]

/-- slice reads are reads of the view: identical bytes; end-of-data is signalled only when no data of the view remains
    after the returned bytes, and always when a non-empty request returns nothing. -/
theorem Slice.readAt_spec (s : Slice) (b : Buf) (off n : Nat) :
    (s.readAt b off n).1 = (SBuf.readAt (SBuf.view b.data s.soff s.len) off n).1 ∧
    ((s.readAt b off n).2 = true → (SBuf.view b.data s.soff s.len).length ≤ off + (s.readAt b off n).1.length) ∧
    ((s.readAt b off n).1 = [] → 0 < n → (s.readAt b off n).2 = true) := by
  unfold Slice.readAt
  cases hl : s.len with
  | none =>
    -- an unlimited view is the plain buffer behind `soff`
    rw [Buf.readAt_spec, ← readAt_drop]
    exact ⟨rfl, readAt_eof_sound _ off n⟩
  | some l =>
    have hv := view_length b.data s.soff (some l)
    simp only at hv
    by_cases hle : l ≤ off
    · simp only [hle, ↓reduceIte]
      exact ⟨by rw [readAt_past _ off n (show (SBuf.view b.data s.soff (some l)).length ≤ off by omega)],
        fun _ => by simp only [List.length_nil]; omega, fun _ _ => trivial⟩
    · -- the read is cut to what the view has left, and what it signals is sound for the buffer, hence for the view
      simp only [hle, ↓reduceIte]
      rw [Buf.readAt_spec, ← readAt_drop]
      obtain ⟨e1, e2⟩ := readAt_eof_sound (b.data.drop s.soff) off (min n (l - off))
      refine ⟨?_, fun h => ?_, fun h hn => e2 h (by omega)⟩
      · simp only [SBuf.readAt, SBuf.view, List.drop_take, List.take_take]
      · have := e1 h
        rw [List.length_drop] at this
        omega

/-- what a line read must return on plain data: up to and including the first delimiter, or the rest and end-of-data -/
def specLine (data : Bytes) (off : Nat) (d : UInt8) : Bytes × Bool × Nat :=
  match Buf.indexOf d (data.drop off) with
  | some i => ((data.drop off).take (i + 1), false, off + i + 1)
  | none => (data.drop off, true, max off data.length)

theorem indexOf_eq (d : UInt8) (l : Bytes) : Buf.indexOf d l = l.findIdx? (· == d) := by
  induction l with
  | nil => rfl
  | cons x xs ih => simp only [Buf.indexOf, List.findIdx?_cons, ih]

theorem indexOf_lt {d : UInt8} {l : Bytes} {i : Nat} (h : Buf.indexOf d l = some i) : i < l.length :=
  (List.findIdx?_eq_some_iff_getElem.1 (indexOf_eq d l ▸ h)).1

theorem indexOf_append (d : UInt8) (a c : Bytes) :
    Buf.indexOf d (a ++ c) = match Buf.indexOf d a with
      | some i => some i
      | none => (Buf.indexOf d c).map (· + a.length) := by
  simp only [indexOf_eq, List.findIdx?_append]
  cases List.findIdx? (· == d) a <;> rfl

theorem specLine_past (V : Bytes) (off : Nat) (d : UInt8) (h : V.length ≤ off) : specLine V off d = ([], true, off) := by
  simp [specLine, List.drop_of_length_le h, Buf.indexOf, Nat.max_eq_left h]

/-- a line read may look at a first chunk `c` of what is left and, if the delimiter is not in it, go on behind it -/
theorem specLine_split (V : Bytes) (off : Nat) (d : UInt8) {c r : Bytes} (h : V.drop off = c ++ r) :
    specLine V off d = match Buf.indexOf d c with
      | some i => (c.take (i + 1), false, off + i + 1)
      | none => (c ++ (specLine V (off + c.length) d).1, (specLine V (off + c.length) d).2.1, (specLine V (off + c.length) d).2.2) := by
  have hr : V.drop (off + c.length) = r := by rw [← List.drop_drop, h, List.drop_left]
  have hlen : V.length - off = c.length + r.length := by simpa using congrArg List.length h
  unfold specLine
  rw [h, hr, indexOf_append]
  cases hi : Buf.indexOf d c with
  | some i =>
    have := indexOf_lt hi
    simp only [List.take_append_of_le_length (show i + 1 ≤ c.length by omega)]
  | none =>
    cases Buf.indexOf d r with
    | some j =>
      simp only [Option.map_some, List.take_append, List.take_of_length_le (show c.length ≤ j + c.length + 1 by omega)]
      refine Prod.ext ?_ (Prod.ext rfl ?_) <;> simp only
      · congr 2; omega
      · omega
    | none =>
      simp only [Option.map_none]
      refine Prod.ext rfl (Prod.ext rfl ?_); simp only; omega

/-- line reads behind a prefix `a` are line reads of the rest, positions shifted -/
theorem specLine_append_right (a f : Bytes) (k : Nat) (d : UInt8) :
    specLine (a ++ f) (a.length + k) d = ((specLine f k d).1, (specLine f k d).2.1, a.length + (specLine f k d).2.2) := by
  have hd : (a ++ f).drop (a.length + k) = f.drop k := by rw [← List.drop_drop, List.drop_left]
  unfold specLine
  rw [hd]
  cases Buf.indexOf d (f.drop k) <;> refine Prod.ext rfl (Prod.ext rfl ?_) <;> simp only [List.length_append] <;> omega

/-- The fuel bound of this loop and of `Slice.lineLoop_spec`: a round that goes on has taken a full chunk of 100 bytes, so
    `fuel` rounds reach the end of the data if `fuel * 100` covers what is left. The model hands out `length / 100 + 2`. -/
theorem diskLoop_spec (f : Bytes) (d : UInt8) (fuel foff : Nat) (acc : Bytes) (hfuel : f.length ≤ foff + fuel * 100) :
    Buf.diskLoop f d fuel foff acc =
      (acc ++ (specLine f foff d).1, (specLine f foff d).2.1, (specLine f foff d).2.2) := by
  induction fuel generalizing foff acc with
  | zero => rw [specLine_past f foff d (by omega)]; simp [Buf.diskLoop]
  | succ k ih =>
    unfold Buf.diskLoop
    rw [atEnd_eq]
    by_cases hend : f.length ≤ foff
    · simp [hend, specLine_past f foff d hend]
    · simp only [hend, decide_false, Bool.false_eq_true, ↓reduceIte]
      -- the chunk read is a first chunk of what is left: the delimiter is in it, or the data end with it, or the loop goes on
      rw [specLine_split f foff d (List.take_append_drop 100 (f.drop foff)).symm]
      cases hi : Buf.indexOf d ((f.drop foff).take 100) with
      | some i => rfl
      | none =>
        simp only
        split
        · next hshort => rw [specLine_past f _ d (by simp at hshort ⊢; omega)]; simp
        · next hfull =>
          have hlen : ((f.drop foff).take 100).length = 100 := by simp at hfull ⊢; omega
          rw [ih _ _ (by omega), hlen, List.append_assoc]

/-- **line reads across the spill boundary**: `ReadBytes` — memory search followed by the 100-byte disk loop —
    returns exactly the line a plain buffer returns, for every threshold, every line length and every position of the
    delimiter relative to the boundary and to the 100-byte chunks. -/
theorem Buf.readBytes_spec (b : Buf) (d : UInt8) (h : b.Inv) :
    b.readBytes d = (((specLine b.data b.off d).1, (specLine b.data b.off d).2.1),
                     { b with off := (specLine b.data b.off d).2.2 }) := by
  unfold Buf.readBytes
  rw [Buf.size_eq]
  by_cases hsz : b.data.length ≤ b.off
  · simp [hsz, specLine_past _ _ d hsz]
  · -- the disk loop reads a line of the file part (of nothing, if there is no file), which lies behind the memory part
    have hdisk : ∀ k, Buf.diskLoop (b.file.getD []) d (b.fileLen / 100 + 2) k [] = specLine (b.file.getD []) k d := fun k => by
      rw [diskLoop_spec _ d _ k [] (by unfold Buf.fileLen; cases b.file <;> simp <;> omega)]; simp
    simp only [hsz, ↓reduceIte, hdisk]
    unfold Buf.memHasSpace Buf.memLen
    by_cases hmem : b.off < b.mem.length
    · simp only [hmem, ↓reduceIte]
      -- the memory search looks at the first chunk of what is left; behind it the file is read from its start
      rw [specLine_split b.data b.off d (c := b.mem.drop b.off) (r := b.file.getD [])
        (by unfold Buf.data; rw [List.drop_append_of_le_length (by omega)])]
      cases hi : Buf.indexOf d (b.mem.drop b.off) with
      | some i => rfl
      | none =>
        have hoff : b.off + (b.mem.drop b.off).length = b.mem.length + 0 := by simp; omega
        rw [hoff, Buf.data, specLine_append_right]
        rcases h.cases with ⟨hsp, hnone⟩ | ⟨hfull, -⟩
        · simp [hsp, hnone, specLine_past]
        · simp [hfull]
    · simp only [hmem, ↓reduceIte]
      conv => rhs; rw [show b.off = b.mem.length + (b.off - b.mem.length) by omega, Buf.data, specLine_append_right]

/-! ### line reads through a slice view

  The loop relies only on the contract of `ReadAtOffset` (`Slice.readAt_spec`). -/

theorem Slice.lineLoop_spec (s : Slice) (b : Buf) (d : UInt8) (fuel off : Nat) (acc : Bytes)
    (hfuel : (SBuf.view b.data s.soff s.len).length ≤ off + fuel * 100) :
    s.lineLoop b d fuel off acc =
      (acc ++ (specLine (SBuf.view b.data s.soff s.len) off d).1, (specLine (SBuf.view b.data s.soff s.len) off d).2.1,
       (specLine (SBuf.view b.data s.soff s.len) off d).2.2) := by
  generalize hV : SBuf.view b.data s.soff s.len = V at hfuel
  induction fuel generalizing off acc with
  | zero => rw [specLine_past V off d (by omega)]; simp [Slice.lineLoop]
  | succ k ih =>
    obtain ⟨r1, r2, r3⟩ := Slice.readAt_spec s b off 100
    rw [hV] at r1 r2
    simp only [SBuf.readAt] at r1
    unfold Slice.lineLoop
    generalize s.readAt b off 100 = R at r1 r2 r3
    have hlen : R.1.length = min 100 (V.length - off) := by rw [r1]; simp
    rw [specLine_split V off d (c := R.1) (by rw [r1, List.take_append_drop])]
    by_cases hpos : R.1.length > 0
    · simp only [hpos, ↓reduceIte]
      cases hi : Buf.indexOf d R.1 with
      | some i => rfl
      | none =>
        simp only
        split
        · next hflag => rw [specLine_past V _ d (r2 hflag)]; simp
        · rw [ih _ _ (by omega), List.append_assoc]
    · have h0 : R.1 = [] := List.eq_nil_of_length_eq_zero (by omega)
      have hflag := r3 h0 (by omega)
      rw [h0] at r2 ⊢
      rw [specLine_past V _ d (r2 hflag)]
      simp [hflag, Buf.indexOf]

end Gowarc
