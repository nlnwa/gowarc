/-
  The serialized record as the theorems about reading it back take it apart: version line, header section, and the block
  with the trailer behind it.
-/
import Gowarc.Model.Record
namespace Gowarc

theorem crlfcrlf_length : crlfcrlf.length = 4 := rfl

/-- `marshal` with block and trailer set apart from what stands before them: the form in which `unmarshal_serialized`
    (Props/C01comp.lean) takes a record -/
theorem marshal_eq (v : Bytes) (h : Fields) (b : Bytes) :
    marshal v h b = bs "WARC/" ++ v ++ crlf ++ Fields.write h ++ crlf ++ (b ++ crlfcrlf) := by
  unfold marshal; rw [List.append_assoc _ b]

end Gowarc
