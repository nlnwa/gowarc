import Gowarc.Lemmas.ParserSim
import Gowarc.Lemmas.PolicyLemmas
namespace Gowarc

/-! ## warn and fail tell one story — record level

`Sim mw mf`: `mw` is a computation under the warn policy, `mf` the same computation under fail, started in the same
state. Either warn recorded nothing new and both end identically (or both with an error), or warn recorded a finding
and fail ended with an error. Fail never records anything. -/

structure Sim {α} (mw mf : M α) : Prop where
  mono : ∀ s, ∃ extra, (mw s).2.fnd = s.fnd ++ extra
  ffnd : ∀ s, (mf s).2.fnd = s.fnd
  same : ∀ s, (mw s).2.fnd = s.fnd → mf s = mw s ∨ (exErr (mw s).1 = true ∧ exErr (mf s).1 = true)
  diff : ∀ s, (mw s).2.fnd ≠ s.fnd → exErr (mf s).1 = true

namespace Sim

theorem of_nofind {α} {m : M α} (h : NoFind m) : Sim m m :=
  ⟨fun s => ⟨[], by simp [h.h s]⟩, h.h, fun _ _ => .inl rfl, fun s hne => absurd (h.h s) hne⟩

theorem hdr : Sim M.hdr M.hdr := of_nofind .hdr
theorem setHdr (h : Fields) : Sim (M.setHdr h) (M.setHdr h) := of_nofind (.setHdr h)
theorem pure {α} (a : α) : Sim (Pure.pure a : M α) (Pure.pure a) := of_nofind (.pure a)
theorem fail {α} (t : Tag) : Sim (M.fail t : M α) (M.fail t) := of_nofind (.fail t)
theorem condFail (c : Bool) (t : Tag) : Sim (Gowarc.condFail c t) (Gowarc.condFail c t) := of_nofind (.condFail c t)

theorem site (t : Tag) : Sim (Gowarc.site .warn t) (Gowarc.site .fail t) :=
  ⟨fun s => ⟨[t], rfl⟩, fun _ => rfl, fun s h => by simp at h, fun _ _ => rfl⟩

theorem report (ts : List Tag) : Sim (Gowarc.report .warn ts) (Gowarc.report .fail ts) := by
  cases ts with
  | nil =>
    rw [show Gowarc.report .warn [] = Gowarc.report .fail [] from funext fun s => (report_nil _ s).trans (report_nil _ s).symm]
    exact of_nofind ⟨fun _ => rfl⟩
  | cons t r => exact ⟨fun s => ⟨t :: r, rfl⟩, fun _ => rfl, fun s h => by simp [report_warn] at h, fun _ _ => rfl⟩

theorem condSite (c : Bool) (t : Tag) : Sim (Gowarc.condSite c .warn t) (Gowarc.condSite c .fail t) := by
  cases c
  · exact of_nofind ⟨fun _ => rfl⟩
  · exact site t

/-- `Sim` in two cases (`of_cases` is the converse): the form in which `bind` is proved -/
theorem cases {α} {mw mf : M α} (h : Sim mw mf) (s : St) :
    (mf s = mw s ∧ (mw s).2.fnd = s.fnd) ∨ (exErr (mf s).1 = true ∧ (exErr (mw s).1 = true ∨ (mw s).2.fnd ≠ s.fnd)) := by
  by_cases hw : (mw s).2.fnd = s.fnd
  · exact (h.same s hw).elim (fun e => .inl ⟨e, hw⟩) fun ⟨a, b⟩ => .inr ⟨b, .inl a⟩
  · exact .inr ⟨h.diff s hw, .inr hw⟩

theorem of_cases {α} {mw mf : M α} (hmono : ∀ s, ∃ e, (mw s).2.fnd = s.fnd ++ e) (hf : ∀ s, (mf s).2.fnd = s.fnd)
    (hc : ∀ s, (mf s = mw s ∧ (mw s).2.fnd = s.fnd) ∨
      (exErr (mf s).1 = true ∧ (exErr (mw s).1 = true ∨ (mw s).2.fnd ≠ s.fnd))) : Sim mw mf :=
  ⟨hmono, hf, fun s hw => (hc s).elim (fun h => .inl h.1) fun ⟨a, b⟩ => .inr ⟨b.resolve_right (not_not_intro hw), a⟩,
   fun s hw => (hc s).elim (fun h => absurd h.2 hw) (·.1)⟩

theorem bind {α β} {mw mf : M α} {kw kf : α → M β} (hm : Sim mw mf) (hk : ∀ a, Sim (kw a) (kf a)) :
    Sim (mw >>= kw) (mf >>= kf) := by
  refine of_cases (fun s => ?_) (fun s => ?_) (fun s => ?_) <;> simp only [M.bind_def]
  · obtain ⟨e1, h1⟩ := hm.mono s
    cases hw : mw s with
    | mk r sw =>
      rw [hw] at h1
      cases r with
      | error e => exact ⟨e1, h1⟩
      | ok a => obtain ⟨e2, h2⟩ := (hk a).mono sw; exact ⟨e1 ++ e2, by rw [h2, h1, List.append_assoc]⟩
  · have h1 := hm.ffnd s
    cases hf : mf s with
    | mk r sf =>
      rw [hf] at h1
      cases r with
      | error e => exact h1
      | ok a => exact ((hk a).ffnd sf).trans h1
  · obtain ⟨e1, h1⟩ := hm.mono s
    have hc := hm.cases s
    cases hw : mw s with
    | mk rw sw =>
      rw [hw] at h1 hc
      cases hf : mf s with
      | mk rf sf =>
        rw [hf] at hc
        rcases hc with ⟨heq, hsame⟩ | ⟨hfe, hwe⟩
        · -- the first part ran identically and silently: the second decides
          cases heq
          cases rw with
          | error e => exact .inl ⟨rfl, hsame⟩
          | ok a => rw [← show sw.fnd = s.fnd from hsame]; exact (hk a).cases sw
        · -- fail stopped in the first part; what warn has found by then stays found
          cases rf with
          | ok a => cases hfe
          | error t =>
            refine .inr ⟨rfl, ?_⟩
            cases rw with
            | error e => exact .inl rfl
            | ok a =>
              obtain ⟨e2, h2⟩ := (hk a).mono sw
              refine .inr fun h => (hwe.resolve_left nofun) ?_
              rw [h2, h1, List.append_assoc] at h
              rw [h1, (List.append_eq_nil_iff.mp (List.append_right_eq_self.mp h)).1, List.append_nil]

theorem ite {α} {c : Prop} [Decidable c] {mw1 mf1 mw2 mf2 : M α} (h1 : Sim mw1 mf1) (h2 : Sim mw2 mf2) :
    Sim (if c then mw1 else mw2) (if c then mf1 else mf2) := by split <;> assumption

/-- the second case throughout: under fail the computation stops wherever it starts (the header parse it is given has
    failed) -/
theorem stopped {α} {mw mf : M α} (hf : ∀ s, (mf s).2.fnd = s.fnd ∧ exErr (mf s).1 = true)
    (hw : ∀ s, ∃ e, (mw s).2.fnd = s.fnd ++ e ∧ (e = [] → exErr (mw s).1 = true)) : Sim mw mf :=
  of_cases (fun s => (hw s).imp fun _ h => h.1) (fun s => (hf s).1) fun s => .inr ⟨(hf s).2, by
    obtain ⟨e, he, hx⟩ := hw s
    cases e with
    | nil => exact .inl (hx rfl)
    | cons x r => exact .inr (by rw [he]; simp)⟩

end Sim

/-- all four axes at one level -/
def Opts.uni (o : Opts) (p : Pol) : Opts := { o with syn := p, spec := p, unk := p, blk := p }

@[simp] theorem uni_syn (o : Opts) (p : Pol) : (o.uni p).syn = p := rfl
@[simp] theorem uni_spec (o : Opts) (p : Pol) : (o.uni p).spec = p := rfl
@[simp] theorem uni_unk (o : Opts) (p : Pol) : (o.uni p).unk = p := rfl
@[simp] theorem uni_blk (o : Opts) (p : Pol) : (o.uni p).blk = p := rfl
@[simp] theorem uni_skip (o : Opts) (p : Pol) : (o.uni p).skipParseBlock = o.skipParseBlock := rfl
@[simp] theorem uni_addDig (o : Opts) (p : Pol) : (o.uni p).addMissingDigest = o.addMissingDigest := rfl
@[simp] theorem uni_fixCL (o : Opts) (p : Pol) : (o.uni p).fixContentLength = o.fixContentLength := rfl
@[simp] theorem uni_fixDig (o : Opts) (p : Pol) : (o.uni p).fixDigest = o.fixDigest := rfl
@[simp] theorem uni_fixSyn (o : Opts) (p : Pol) : (o.uni p).fixSyntaxErrors = o.fixSyntaxErrors := rfl
@[simp] theorem uni_fixWf (o : Opts) (p : Pol) : (o.uni p).fixWarcFieldsBlockErrors = o.fixWarcFieldsBlockErrors := rfl
@[simp] theorem uni_alg (o : Opts) (p : Pol) : (o.uni p).defaultAlg = o.defaultAlg := rfl
@[simp] theorem uni_enc (o : Opts) (p : Pol) : (o.uni p).defaultEnc = o.defaultEnc := rfl

theorem NoWarn.uni (o : Opts) {p : Pol} (hp : p ≠ .warn) : NoWarn (o.uni p) := ⟨hp, hp, hp, hp⟩

theorem validateHeader_sim (o : Opts) (Ω : Oracles) (v : Nat) :
    Sim (validateHeader (o.uni .warn) Ω v) (validateHeader (o.uni .fail) Ω v) := by
  rw [validateHeader_eq, validateHeader_eq]
  exact .bind .hdr fun _ => .bind (.report _) fun _ => .bind (.report _) fun _ => .bind (.report _) fun _ => .pure _

theorem digestFromField_sim (o : Opts) (f : Bytes) : Sim (digestFromField (o.uni .warn) f) (digestFromField (o.uni .fail) f) :=
  .of_nofind (digestFromField_nofind o f)

theorem newHttpBlock_sim (o : Opts) (Ω : Oracles) (c : Bytes) (bd pd : Digest) :
    Sim (newHttpBlock (o.uni .warn) Ω c bd pd) (newHttpBlock (o.uni .fail) Ω c bd pd) :=
  .bind (.condFail _ _) fun _ => .bind (.condSite _ _) fun _ => .bind .hdr fun _ => .bind (.setHdr _) fun _ =>
  .bind (.condSite _ _) fun _ => .pure _

/-- the inner parse of a warc-fields block and what the block axis makes of it: warn vs fail -/
theorem wfFinish_sim (fixWf : Bool) (c : Bytes) (bd : Digest) {rw rf : ParseRes} (hp : PSim [] rw rf) :
    Sim (wfFinish .warn fixWf c bd rw) (wfFinish .fail fixWf c bd rf) := by
  rcases hp.cases with ⟨rfl, -⟩ | ⟨⟨tf, rfl⟩, hw⟩
  · -- the same inner parse on both sides: the block axis reports its findings under warn, stops at them under fail
    rw [wfFinish_eq, wfFinish_eq]
    exact .bind (.report _) fun _ => by
      cases rf
      · exact .pure _
      · exact .fail _
  · refine .stopped (fun s => by simp [wfFinish, wfReport, ParseRes.findings, ParseRes.errTag, exErr]) fun s => ?_
    refine ⟨rw.findings.map fun _ => Tag.wfBlock, ?_, fun he => ?_⟩ <;>
      simp only [wfFinish, wfReport, M.bind_def, wfFindings_eq]
    · cases rw.errTag <;> rfl
    · cases rw with
      | ok a b d => exact absurd (List.map_eq_nil_iff.mp he) (hw.resolve_left nofun)
      | err t f => rfl

theorem newWarcFieldsBlock_sim (o : Opts) (c : Bytes) (fault : Bool) (bd : Digest) :
    Sim (newWarcFieldsBlock (o.uni .warn) c fault bd) (newWarcFieldsBlock (o.uni .fail) c fault bd) := by
  rw [newWarcFieldsBlock_not_ignore _ _ _ _ (by simp [uni_syn]), newWarcFieldsBlock_not_ignore _ _ _ _ (by simp [uni_syn])]
  apply Sim.bind (Sim.condSite _ _)
  intro _
  exact wfFinish_sim _ _ _ (parseFields_sim ⟨c, false⟩)

theorem parseBlock_sim (o : Opts) (Ω : Oracles) (rt : Nat) (c : Bytes) (fault : Bool) :
    Sim (parseBlock (o.uni .warn) Ω rt c fault) (parseBlock (o.uni .fail) Ω rt c fault) :=
  .bind (digestFromField_sim o _) fun _ => .bind (digestFromField_sim o _) fun _ => .bind .hdr fun _ =>
  .ite (newHttpBlock_sim o Ω _ _ _) <| .ite (.ite (.fail _) (.pure _)) <| .ite (newWarcFieldsBlock_sim o _ _ _) (.pure _)

variable (H : Alg → Bytes → Bytes)

theorem checkDigest_sim (o : Opts) (f : Bytes) (t : Tag) (d : Digest) (data : Bytes) :
    Sim (checkDigest H (o.uni .warn) f t d data) (checkDigest H (o.uni .fail) f t d data) :=
  .bind .hdr fun _ => .ite (.setHdr _) (.bind (.condSite _ _) fun _ => .bind .hdr fun _ => .setHdr _)

theorem validateDigest_sim (o : Opts) (rt : Nat) (b : Block) (fault : Bool) :
    Sim (validateDigest H (o.uni .warn) rt b fault) (validateDigest H (o.uni .fail) rt b fault) :=
  .bind (.condFail _ _) fun _ => .bind .hdr fun _ => .bind (.condSite _ _) fun _ => .bind .hdr fun _ =>
  .bind (.setHdr _) fun _ => .bind (checkDigest_sim H o _ _ _ _) fun _ => .bind .hdr fun _ =>
  .ite (.pure _) (by
    split
    · exact checkDigest_sim H o _ _ _ _
    · exact .pure _)

theorem versionOf_sim (o : Opts) (txt : Bytes) : Sim (versionOf (o.uni .warn) txt) (versionOf (o.uni .fail) txt) := by
  unfold versionOf
  split
  · exact .pure _
  · exact .bind (.site _) fun _ => .pure _

theorem unmarshalTail_sim (o : Opts) (Ω : Oracles) (vt : Bytes) (vi : Nat) (fs : Fields) (s' : Stream) :
    Sim (unmarshalTail H (o.uni .warn) Ω vt vi fs s') (unmarshalTail H (o.uni .fail) Ω vt vi fs s') :=
  .bind (.setHdr _) fun _ => .bind (validateHeader_sim o Ω _) fun _ => .bind .hdr fun _ =>
    .bind (parseBlock_sim o Ω _ _ _) fun _ => .bind (validateDigest_sim H o _ _ _) fun _ => .bind (.condFail _ _) fun _ =>
    .bind (.condSite _ _) fun _ => .bind .hdr fun _ => .pure _

theorem unmarshalRest_sim (o : Opts) (Ω : Oracles) (vt : Bytes) (vi : Nat) {rw rf : ParseRes} (hp : PSim [] rw rf) :
    Sim (unmarshalRest H (o.uni .warn) Ω vt vi rw) (unmarshalRest H (o.uni .fail) Ω vt vi rf) := by
  rcases hp.cases with ⟨rfl, hs⟩ | ⟨⟨tf, rfl⟩, hw⟩
  · cases rf with
    | err t fnd => cases hs; exact .bind (.of_nofind .addNil) fun _ => .fail _
    | ok fs fnd s' => cases hs; exact .bind (.of_nofind .addNil) fun _ => unmarshalTail_sim H o Ω vt vi fs s'
  · refine .stopped (fun s => by simp [unmarshalRest, exErr]) fun s => ?_
    cases rw with
    | err t fnd => exact ⟨fnd, rfl, fun _ => rfl⟩
    | ok fs fnd s' =>
      obtain ⟨e, he⟩ := (unmarshalTail_sim H o Ω vt vi fs s').mono ⟨s.hdr, s.fnd ++ fnd⟩
      exact ⟨fnd ++ e, by simp only [unmarshalRest, M.bind_def, M.addFindings_def, he, List.append_assoc],
        fun h => absurd (List.append_eq_nil_iff.mp h).1 (hw.resolve_left nofun)⟩

theorem unmarshalBody_sim (o : Opts) (Ω : Oracles) (s : Stream) (vl : Bytes) :
    Sim (unmarshalBody H (o.uni .warn) Ω s vl) (unmarshalBody H (o.uni .fail) Ω s vl) := by
  unfold unmarshalBody
  apply Sim.bind (Sim.condSite _ _); intro _
  apply Sim.bind (versionOf_sim o _); intro v
  exact unmarshalRest_sim H o Ω _ _ (parseFields_sim s)

/-- "fail returns an error exactly when warn returns one or records a finding" (C08), for one pair of runs -/
theorem Sim.err_iff {α} {mw mf : M α} (h : Sim mw mf) (s : St) :
    exErr (mf s).1 = true ↔ (exErr (mw s).1 = true ∨ (mw s).2.fnd ≠ s.fnd) := by
  rcases h.cases s with ⟨heq, hw⟩ | ⟨hfe, hwe⟩
  · rw [heq]; simp [hw]
  · simp [hfe, hwe]

/-- the same for two outcomes of Unmarshal, warn (`w`) and fail (`f`), from accumulated findings `fnd0` -/
def URel (fnd0 : List Tag) (w f : URes) : Prop :=
  (∃ e, w.fnd = fnd0 ++ e) ∧ (f.err.isSome = true ↔ (w.err.isSome = true ∨ w.fnd ≠ fnd0))

theorem atMagic_sim (o : Opts) (Ω : Oracles) (off : Nat) (fnd0 : List Tag) (a : Bytes) (fault : Bool) :
    URel fnd0 (atMagic H (o.uni .warn) Ω off fnd0 a fault) (atMagic H (o.uni .fail) Ω off fnd0 a fault) := by
  refine atMagic_rel H _ _ Ω off off fnd0 fnd0 a fault (fun _ => ⟨⟨[], by simp⟩, by simp⟩) (fun s vl => ?_)
    (fun w f bad rest h => ⟨by rw [gzFinish_fnd]; exact h.1, by rw [gzFinish_err, gzFinish_err, gzFinish_fnd, Bool.or_eq_true, Bool.or_eq_true, h.2, or_right_comm]⟩)
  simp only [URel, URes.ofRun_fnd, URes.ofRun_err]
  exact ⟨(unmarshalBody_sim H o Ω s vl).mono ⟨[], fnd0⟩, (unmarshalBody_sim H o Ω s vl).err_iff ⟨[], fnd0⟩⟩

theorem buildBody_sim (o : Opts) (Ω : Oracles) (vt : Bytes) (vi rt0 : Nat) (cla : Bool) (c : Bytes) :
    Sim (buildBody H (o.uni .warn) Ω vt vi rt0 cla c) (buildBody H (o.uni .fail) Ω vt vi rt0 cla c) :=
  .bind (validateHeader_sim o Ω _) fun _ => .bind (parseBlock_sim o Ω _ _ _) fun _ => .bind .hdr fun _ =>
    .bind (.setHdr _) fun _ => .bind (validateDigest_sim H o _ _ _) fun _ => .bind .hdr fun _ => .pure _

end Gowarc
