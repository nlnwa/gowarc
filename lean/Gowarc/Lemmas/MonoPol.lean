/-
  Monotone rejection: whatever a stricter policy setting accepts, a more lenient one accepts too.

  `Rel P Q mL mS`: `mL` is a computation under the lenient setting, `mS` the same computation under the strict one. Started
  in states whose headers are related by `P` (the findings may differ at will), if the strict one returns a value, the
  lenient one returns the SAME value and the headers are related by `Q`. `Mono` is `Rel Eq Eq`. Compositional over the
  validation monad.
-/
import Gowarc.Lemmas.Report
import Gowarc.Lemmas.ParserMono
namespace Gowarc

structure Pols where
  syn : Pol
  spec : Pol
  unk : Pol
  blk : Pol

structure Pols.le (L S : Pols) : Prop where
  syn : L.syn.le S.syn = true
  spec : L.spec.le S.spec = true
  unk : L.unk.le S.unk = true
  blk : L.blk.le S.blk = true

theorem Pols.le.only_syn {p q : Pol} (h : p.le q = true) (spec unk blk : Pol) : Pols.le ⟨p, spec, unk, blk⟩ ⟨q, spec, unk, blk⟩ :=
  ⟨h, Pol.le_refl _, Pol.le_refl _, Pol.le_refl _⟩
theorem Pols.le.only_spec {p q : Pol} (h : p.le q = true) (syn unk blk : Pol) : Pols.le ⟨syn, p, unk, blk⟩ ⟨syn, q, unk, blk⟩ :=
  ⟨Pol.le_refl _, h, Pol.le_refl _, Pol.le_refl _⟩
theorem Pols.le.only_unk {p q : Pol} (h : p.le q = true) (syn spec blk : Pol) : Pols.le ⟨syn, spec, p, blk⟩ ⟨syn, spec, q, blk⟩ :=
  ⟨Pol.le_refl _, Pol.le_refl _, h, Pol.le_refl _⟩
theorem Pols.le.only_blk {p q : Pol} (h : p.le q = true) (syn spec unk : Pol) : Pols.le ⟨syn, spec, unk, p⟩ ⟨syn, spec, unk, q⟩ :=
  ⟨Pol.le_refl _, Pol.le_refl _, Pol.le_refl _, h⟩

@[reducible] def Opts.withPol (o : Opts) (p : Pols) : Opts :=
  { o with syn := p.syn, spec := p.spec, unk := p.unk, blk := p.blk }

structure Rel {α} (P Q : Fields → Fields → Prop) (mL mS : M α) : Prop where
  h : ∀ sL sS, P sL.hdr sS.hdr → ∀ a sS', mS sS = (.ok a, sS') → ∃ sL', mL sL = (.ok a, sL') ∧ Q sL'.hdr sS'.hdr

abbrev Mono {α} (mL mS : M α) : Prop := Rel Eq Eq mL mS

/-- acceptance only: the values may differ -/
structure Acc {α} (P : Fields → Fields → Prop) (mL mS : M α) : Prop where
  h : ∀ sL sS, P sL.hdr sS.hdr → ∀ a sS', mS sS = (.ok a, sS') → ∃ b sL', mL sL = (.ok b, sL')

namespace Rel

theorem bind {α β} {P Q R} {mL mS : M α} {kL kS : α → M β} (hm : Rel P Q mL mS) (hk : ∀ a, Rel Q R (kL a) (kS a)) :
    Rel P R (mL >>= kL) (mS >>= kS) := by
  constructor
  intro sL sS hP b sS' hS
  obtain ⟨a, s1, hms, hS⟩ := bind_ok hS
  obtain ⟨sL1, hL1, hQ⟩ := hm.h sL sS hP a s1 hms
  rw [M.bind_def, hL1]
  exact (hk a).h sL1 s1 hQ b sS' hS

theorem pure {α} {P} (a : α) : Rel P P (Pure.pure a : M α) (Pure.pure a) := by
  constructor
  intro sL sS hP b sS' hS
  obtain ⟨rfl, rfl⟩ := hS
  exact ⟨sL, rfl, hP⟩

theorem failS {α} {P Q} (mL : M α) (t : Tag) : Rel P Q mL (M.fail t) := by
  constructor
  intro sL sS _ b sS' hS; simp at hS

theorem hdr : Rel Eq Eq M.hdr M.hdr := by
  constructor
  intro sL sS hP b sS' hS
  obtain ⟨rfl, rfl⟩ := hS
  exact ⟨sL, by simp [hP], hP⟩

theorem setHdr' {P Q : Fields → Fields → Prop} {x y : Fields} (h : Q x y) : Rel P Q (M.setHdr x) (M.setHdr y) := by
  constructor
  intro sL sS _ b sS' hS
  cases hS
  exact ⟨_, rfl, h⟩

theorem setHdr {P} (h : Fields) : Rel P Eq (M.setHdr h) (M.setHdr h) := setHdr' rfl

theorem addFindings {P} (fL fS : List Tag) : Rel P P (M.addFindings fL) (M.addFindings fS) := by
  constructor
  intro sL sS hP b sS' hS
  cases hS
  exact ⟨_, rfl, hP⟩

theorem report {P} (pL pS : Pol) (ts : List Tag) (h : pL.le pS = true) : Rel P P (Gowarc.report pL ts) (Gowarc.report pS ts) := by
  constructor
  intro sL sS hP b sS' hS
  obtain ⟨hh, hts, -⟩ := report_ok hS
  cases pL with
  | ignore => exact ⟨sL, rfl, hh ▸ hP⟩
  | warn => exact ⟨_, rfl, hh ▸ hP⟩
  | fail =>
    -- then the strict side is at fail as well, and it went on: there was nothing to report
    rw [hts (Pol.fail_of_le h rfl), report_nil]
    exact ⟨sL, rfl, hh ▸ hP⟩

theorem site {P} (pL pS : Pol) (t : Tag) (h : pL.le pS = true) : Rel P P (Gowarc.site pL t) (Gowarc.site pS t) := by
  rw [site_report, site_report]; exact report _ _ _ h

theorem condSite {P} (c : Bool) (pL pS : Pol) (t : Tag) (h : pL.le pS = true) :
    Rel P P (Gowarc.condSite c pL t) (Gowarc.condSite c pS t) := by
  rw [condSite_report, condSite_report]; exact report _ _ _ h

theorem condFail {P} (c : Bool) (t : Tag) : Rel P P (Gowarc.condFail c t) (Gowarc.condFail c t) := by
  cases c
  · exact pure ()
  · exact failS _ _

theorem ite {α} {P Q} {c : Prop} [Decidable c] {aL aS bL bS : M α} (h1 : c → Rel P Q aL aS) (h2 : ¬c → Rel P Q bL bS) :
    Rel P Q (if c then aL else bL) (if c then aS else bS) := by
  split
  · exact h1 ‹_›
  · exact h2 ‹_›

/-- reading the header to decide what to do next, when the decision is the same on related headers -/
theorem hdrDep {α} {P Q} {kL kS : Fields → M α} (h : ∀ hL hS, P hL hS → Rel P Q (kL hL) (kS hS)) :
    Rel P Q (M.hdr >>= kL) (M.hdr >>= kS) := by
  constructor
  intro sL sS hP b sS' hS
  exact (h sL.hdr sS.hdr hP).h sL sS hP b sS' hS

theorem modify {P Q : Fields → Fields → Prop} {gL gS : Fields → Fields} (h : ∀ hL hS, P hL hS → Q (gL hL) (gS hS)) :
    Rel P Q (M.hdr >>= fun x => M.setHdr (gL x)) (M.hdr >>= fun x => M.setHdr (gS x)) := by
  constructor
  intro sL sS hP b sS' hS
  simp only [M.bind_def, M.hdr_def, M.setHdr_def, Prod.mk.injEq]
  obtain ⟨_, rfl⟩ := hS
  exact ⟨_, ⟨trivial, rfl⟩, h _ _ hP⟩

theorem weaken {α} {P P' Q Q' : Fields → Fields → Prop} {mL mS : M α} (h : Rel P Q mL mS)
    (hp : ∀ a b, P' a b → P a b) (hq : ∀ a b, Q a b → Q' a b) : Rel P' Q' mL mS := by
  constructor
  intro sL sS hP b sS' hS
  obtain ⟨sL', h1, h2⟩ := h.h sL sS (hp _ _ hP) b sS' hS
  exact ⟨sL', h1, hq _ _ h2⟩

end Rel

namespace Acc

theorem of_rel {α} {P Q} {mL mS : M α} (h : Rel P Q mL mS) : Acc P mL mS := by
  constructor
  intro sL sS hP b sS' hS
  obtain ⟨sL', h1, _⟩ := h.h sL sS hP b sS' hS
  exact ⟨b, sL', h1⟩

theorem bind {α β} {P Q} {mL mS : M α} {kL kS : α → M β} (hm : Rel P Q mL mS) (hk : ∀ a, Acc Q (kL a) (kS a)) :
    Acc P (mL >>= kL) (mS >>= kS) := by
  constructor
  intro sL sS hP b sS' hS
  obtain ⟨a, s1, hms, hS⟩ := bind_ok hS
  obtain ⟨sL1, hL1, hQ⟩ := hm.h sL sS hP a s1 hms
  rw [M.bind_def, hL1]
  exact (hk a).h sL1 s1 hQ b sS' hS

theorem total {α} {P} {mS : M α} (mL : M α) (h : ∀ s, ∃ b s', mL s = (.ok b, s')) : Acc P mL mS := by
  constructor
  intro sL _ _ _ _ _
  exact h sL

/-- an error of the lenient run is an error of the strict run; `URes.ofRun_err` and `BRes.ofRun_err` carry this over to
    the outcomes of Unmarshal and Build -/
theorem err {α} {P} {mL mS : M α} (h : Acc P mL mS) {sL sS : St} (hP : P sL.hdr sS.hdr) (hL : exErr (mL sL).1 = true) :
    exErr (mS sS).1 = true := by
  cases hS : mS sS with
  | mk r st =>
    cases r with
    | error e => rfl
    | ok v =>
      obtain ⟨b, sL', hr⟩ := h.h sL sS hP v st hS
      rw [hr] at hL; cases hL

end Acc

end Gowarc
