/-
  One-run reasoning about the validation monad `M`: invariants.

  `Preserves I m`: if `I` holds before a run of `m` it holds after it, whatever the run returns. The record level of the
  model changes the state in two ways only: it appends findings (only where a policy axis is at warn) and it `Set`s one
  header field (only where a repair or add-missing option is on). An `I` that survives the steps a function can take is
  an invariant of the function (`*_preserves`). "No finding unless an axis warns" (`NoFind`), "validation never alters
  a field" (`KeepHdr`), "only the documented repairs touch the header" (`Props.C07.Others`), "field k keeps its value"
  are all read off these lemmas by choosing `I`.
-/
import Gowarc.Lemmas.Report
namespace Gowarc

def Preserves {α} (I : St → Prop) (m : M α) : Prop := ∀ s, I s → I (m s).2

/-- `I` survives added findings -/
def Finds (I : St → Prop) : Prop := ∀ s l, I s → I ⟨s.hdr, s.fnd ++ l⟩
/-- `I` survives setting field `n` to `v` -/
def Sets (I : St → Prop) (n v : Bytes) : Prop := ∀ s, I s → I ⟨s.hdr.set n v, s.fnd⟩

theorem Finds.of_hdr (P : Fields → Prop) : Finds (P ·.hdr) := fun _ _ h => h

theorem Sets.cond {I : St → Prop} {c : Bool} {n v : Bytes} (h : c = true → Sets I n v) (s : St) (hs : I s) :
    I ⟨if c then s.hdr.set n v else s.hdr, s.fnd⟩ := by
  split
  · exact h ‹_› s hs
  · exact hs

/-- some axis is at warn -/
inductive Warns (o : Opts) : Prop
  | syn : o.syn = .warn → Warns o
  | spec : o.spec = .warn → Warns o
  | unk : o.unk = .warn → Warns o
  | blk : o.blk = .warn → Warns o

namespace Preserves
variable {I : St → Prop}

theorem pure {α} (a : α) : Preserves I (Pure.pure a : M α) := fun _ h => h
theorem fail {α} (t : Tag) : Preserves I (M.fail t : M α) := fun _ h => h
theorem hdr : Preserves I M.hdr := fun _ h => h

theorem bind {α β} {m : M α} {f : α → M β} (hm : Preserves I m) (hf : ∀ a, Preserves I (f a)) : Preserves I (m >>= f) := by
  intro s hs
  have h1 := hm s hs
  simp only [M.bind_def]
  cases hr : m s with
  | mk r s' =>
    rw [hr] at h1
    cases r with
    | ok a => exact hf a s' h1
    | error e => exact h1

theorem ite {α} {c : Prop} [Decidable c] {m1 m2 : M α} (h1 : Preserves I m1) (h2 : Preserves I m2) :
    Preserves I (if c then m1 else m2) := by split <;> assumption

theorem condFail (c : Bool) (t : Tag) : Preserves I (Gowarc.condFail c t) := ite (fail t) (pure ())

theorem addFindings (l : List Tag) (h : l ≠ [] → Finds I) : Preserves I (M.addFindings l) := by
  intro s hs
  cases l with
  | nil => simpa using hs
  | cons x r => exact h (by simp) s _ hs

theorem report (p : Pol) (ts : List Tag) (hp : p = .warn → Finds I) : Preserves I (Gowarc.report p ts) := by
  intro s hs
  rcases report_cases p ts s with ⟨t, h⟩ | ⟨e, h, he⟩ <;> rw [h]
  · exact hs
  · by_cases hw : p = .warn
    · exact hp hw s e hs
    · rw [he hw, List.append_nil]; exact hs

theorem site (p : Pol) (t : Tag) (hp : p = .warn → Finds I) : Preserves I (Gowarc.site p t) :=
  site_report p t ▸ report p [t] hp

theorem condSite (c : Bool) (p : Pol) (t : Tag) (hp : p = .warn → Finds I) : Preserves I (Gowarc.condSite c p t) :=
  ite (site p t hp) (pure ())

/-- rewriting the header as a function of the header, as the last step or followed by `k` -/
theorem modify (g : Fields → Fields) (hg : ∀ s, I s → I ⟨g s.hdr, s.fnd⟩) : Preserves I (M.hdr >>= fun x => M.setHdr (g x)) := hg

theorem modifyThen {β} (g : Fields → Fields) {k : M β} (hg : ∀ s, I s → I ⟨g s.hdr, s.fnd⟩) (hk : Preserves I k) :
    Preserves I (M.hdr >>= fun x => M.setHdr (g x) >>= fun _ => k) := fun s hs => hk _ (hg s hs)

theorem run {α} {m : M α} (hm : Preserves I m) {s s' : St} {r : Except Tag α} (h : m s = (r, s')) (hs : I s) : I s' := by
  have := hm s hs; rw [h] at this; exact this

end Preserves

variable {I : St → Prop} {o : Opts} (hf : Warns o → Finds I)
theorem digestFromField_preserves {f : Bytes} : Preserves I (digestFromField o f) :=
  .bind .hdr fun _ => by
    split
    · exact .pure _
    · exact .fail _

theorem wfFinish_preserves {blk : Pol} {fixWf : Bool} {c : Bytes} {bd : Digest} {res : ParseRes} (h : blk = .warn → Finds I) :
    Preserves I (wfFinish blk fixWf c bd res) := by
  rw [wfFinish_eq]
  exact .bind (.report _ _ h) fun _ => by
    cases res
    · exact .pure _
    · exact .fail _

include hf

/-- header validation changes the state by findings only -/
theorem validateHeader_preserves {Ω : Oracles} {v : Nat} : Preserves I (validateHeader o Ω v) := by
  rw [validateHeader_eq]
  exact .bind .hdr fun _ => .bind (.report _ _ (hf ∘ .spec)) fun _ => .bind (.report _ _ (hf ∘ .unk)) fun _ =>
    .bind (.report _ _ (hf ∘ .spec)) fun _ => .pure _

theorem newWarcFieldsBlock_preserves {c : Bytes} {fault : Bool} {bd : Digest} : Preserves I (newWarcFieldsBlock o c fault bd) :=
  .bind (.condSite _ _ _ (hf ∘ .syn)) fun _ => .bind (wfFinish_preserves (hf ∘ .blk)) fun _ => .pure _

/-- the HTTP block constructor: findings, and Content-Length + 2 when it appends the missing terminator -/
theorem newHttpBlock_preserves {Ω : Oracles} {c : Bytes} {bd pd : Digest}
    (hcl : o.fixSyntaxErrors = true → ∀ v, Sets I (bs "Content-Length") v) : Preserves I (newHttpBlock o Ω c bd pd) :=
  .bind (.condFail _ _) fun _ => .bind (.condSite _ _ _ (hf ∘ .syn)) fun _ =>
  .modifyThen _ (fun s => Sets.cond (fun hc => by
    -- the `Set` happens when the terminator is missing, `fixSyntaxErrors` is on and the field is there
    simp only [Bool.and_eq_true] at hc
    obtain ⟨⟨_, hfix⟩, _⟩ := hc
    exact hcl hfix _) s) <|
  .bind (.condSite _ _ _ (hf ∘ .blk)) fun _ => .pure _

theorem parseBlock_preserves {Ω : Oracles} {rt : Nat} {c : Bytes} {fault : Bool}
    (hcl : o.fixSyntaxErrors = true → ∀ v, Sets I (bs "Content-Length") v) : Preserves I (parseBlock o Ω rt c fault) :=
  .bind digestFromField_preserves fun _ => .bind digestFromField_preserves fun _ => .bind .hdr fun _ =>
  .ite (newHttpBlock_preserves hf hcl) <| .ite (.ite (.fail _) (.pure _)) <| .ite (newWarcFieldsBlock_preserves hf) (.pure _)

variable (H : Alg → Bytes → Bytes)

/-- one digest step: a finding, and `Set`ting its own field to the true digest (add-missing, or the repair) -/
theorem checkDigest_preserves {field : Bytes} {tag : Tag} {d : Digest} {data : Bytes}
    (hset : (if d.hash.isEmpty then o.addMissingDigest else o.fixDigest) = true → Sets I field (d.format H data)) :
    Preserves I (checkDigest H o field tag d data) := by
  intro s hs
  -- the test does not look at the header: it can be decided before the header is read
  show I ((if d.hash.isEmpty then _ else _ : M Unit) s).2
  split
  · rename_i he
    exact Sets.cond (fun hc => hset (by simpa [he] using hc)) s hs
  · rename_i he
    exact (Preserves.bind (.condSite _ _ _ (hf ∘ .spec)) fun _ =>
      .modify _ fun s => Sets.cond (fun hc => by
        -- the `Set` happens when the mismatch was reported and `fixDigest` is on
        simp only [Bool.and_eq_true] at hc
        obtain ⟨_, hfix⟩ := hc
        exact hset (by simpa [he] using hfix)) s) s hs

/-- ValidateDigest: findings, the Content-Length repair, and the two digest steps -/
theorem validateDigest_preserves {rt : Nat} {b : Block} {fault : Bool}
    (hcl : o.fixContentLength = true → Sets I (bs "Content-Length") (natToDec b.raw.length))
    (hbd : (if b.blockDigest.hash.isEmpty then o.addMissingDigest else o.fixDigest) = true →
      Sets I (bs "WARC-Block-Digest") (b.blockDigest.format H b.raw))
    (hpd : ∀ pd, b.payloadDigest = some pd → (if pd.hash.isEmpty then o.addMissingDigest else o.fixDigest) = true →
      Sets I (bs "WARC-Payload-Digest") (pd.format H b.payload)) :
    Preserves I (validateDigest H o rt b fault) :=
  .bind (.condFail _ _) fun _ => .bind .hdr fun _ => .bind (.condSite _ _ _ (hf ∘ .spec)) fun _ =>
  .modifyThen _ (fun s => Sets.cond (fun hc => by
    -- the `Set` happens when the length is wrong (`lengthBad`) and `fixContentLength` is on
    simp only [Bool.and_eq_true] at hc
    obtain ⟨_, hfix⟩ := hc
    exact hcl hfix) s) <|
  .bind (checkDigest_preserves hf H hbd) fun _ => .bind .hdr fun _ =>
  .ite (.pure _) (by
    split
    · exact checkDigest_preserves hf H (hpd _ ‹_›)
    · exact .pure _)

theorem versionOf_preserves {txt : Bytes} : Preserves I (versionOf o txt) := by
  unfold versionOf
  split
  · exact .pure _
  · exact .bind (.site _ _ (hf ∘ .spec)) fun _ => .pure _

/-- what the steps of Unmarshal and Build behind the header parser may do to the header: the three documented repairs -/
structure Repairs (I : St → Prop) (o : Opts) : Prop where
  cl : o.fixSyntaxErrors = true ∨ o.fixContentLength = true → ∀ v, Sets I (bs "Content-Length") v
  digest : o.addMissingDigest = true ∨ o.fixDigest = true →
    ∀ v, Sets I (bs "WARC-Block-Digest") v ∧ Sets I (bs "WARC-Payload-Digest") v

omit hf in
/-- an invariant of the findings alone admits every repair -/
theorem Repairs.of_fnd (P : List Tag → Prop) (o : Opts) : Repairs (P ·.fnd) o :=
  ⟨fun _ _ _ hs => hs, fun _ _ => ⟨fun _ hs => hs, fun _ hs => hs⟩⟩

omit hf in
theorem addOrFix_of_ite {e : Bool} (h : (if e then o.addMissingDigest else o.fixDigest) = true) :
    o.addMissingDigest = true ∨ o.fixDigest = true := by
  cases e
  · exact .inr h
  · exact .inl h

variable (hr : Repairs I o)
include hr

theorem validateDigest_repairs {rt : Nat} {b : Block} {fault : Bool} : Preserves I (validateDigest H o rt b fault) :=
  validateDigest_preserves hf H (fun h => hr.cl (.inr h) _)
    (fun h => (hr.digest (addOrFix_of_ite h) _).1) (fun _ _ h => (hr.digest (addOrFix_of_ite h) _).2)

/-- Unmarshal behind the header parser, once the parsed fields `fs` are in place -/
theorem unmarshalTail_preserves (Ω : Oracles) (vt : Bytes) (vi : Nat) (fs : Fields) (s' : Stream) (s : St)
    (hs : I ⟨fs, s.fnd⟩) : I (unmarshalTail H o Ω vt vi fs s' s).2 :=
  (Preserves.bind (validateHeader_preserves hf) fun _ => .bind .hdr fun _ =>
    .bind (parseBlock_preserves hf fun h => hr.cl (.inl h)) fun _ =>
    .bind (validateDigest_repairs hf H hr) fun _ => .bind (.condFail _ _) fun _ =>
    .bind (.condSite _ _ _ (hf ∘ .spec)) fun _ => .bind .hdr fun _ => .pure _) ⟨fs, s.fnd⟩ hs

/-- the monadic part of Build; `cla`: the builder added Content-Length itself and adjusts it to a rewritten block -/
theorem buildBody_preserves {Ω : Oracles} {vt : Bytes} {vi rt0 : Nat} {cla : Bool} {c : Bytes}
    (hcla : cla = true → ∀ v, Sets I (bs "Content-Length") v) : Preserves I (buildBody H o Ω vt vi rt0 cla c) :=
  .bind (validateHeader_preserves hf) fun _ => .bind (parseBlock_preserves hf fun h => hr.cl (.inl h)) fun _ =>
  .modifyThen _ (fun s => Sets.cond (fun hc => by
    -- the `Set` happens when the builder added the field itself (`cla`) and a warc-fields block was rewritten
    simp only [Bool.and_eq_true] at hc
    obtain ⟨⟨hc, _⟩, _⟩ := hc
    exact hcla hc _) s) <|
  .bind (validateDigest_repairs hf H hr) fun _ => .bind .hdr fun _ => .pure _

end Gowarc
