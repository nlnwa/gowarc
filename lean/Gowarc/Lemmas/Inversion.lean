/-
  Runs that returned. For each function of the record level ONE lemma says what a run that returned a value consisted
  of: which sub-runs (with their states), which value, which header. Every theorem about "a record that was returned"
  starts from these. `Preserves` (all outcomes, invariants) is the other half.
-/
import Gowarc.Lemmas.Runs
import Gowarc.Lemmas.FieldsLemmas
import Gowarc.Lemmas.Names
import Gowarc.Lemmas.RecordShape
import Gowarc.Lemmas.StreamLemmas
namespace Gowarc
open Gowarc.Names

/-- the digest object parseBlock builds for a field: from the declared value, or from the configured default -/
def digestOfField (o : Opts) (h : Fields) (field : Bytes) : Option Digest :=
  if h.has field then newDigest (h.get field) o.defaultEnc else newDigest o.defaultAlg o.defaultEnc

theorem digestOfField_absent {o : Opts} {h : Fields} {field : Bytes} (hno : h.has field = false) :
    digestOfField o h field = newDigest o.defaultAlg o.defaultEnc := by
  rw [digestOfField, hno]; rfl

theorem digestOfField_present {o : Opts} {h : Fields} {field : Bytes} (hhas : h.has field = true) :
    digestOfField o h field = newDigest (h.get field) o.defaultEnc := by
  rw [digestOfField, if_pos hhas]

theorem digestFromField_eq (o : Opts) (field : Bytes) (s : St) :
    digestFromField o field s = (match digestOfField o s.hdr field with
      | some d => (.ok d, s)
      | none => (.error .digestAlg, s)) := by
  unfold digestFromField digestOfField
  simp only [M.bind_def, M.hdr_def]
  cases (if s.hdr.has field = true then newDigest (s.hdr.get field) o.defaultEnc else newDigest o.defaultAlg o.defaultEnc) <;> rfl

/-! ### the block constructors -/

/-- the protocol header an HTTP block keeps: with the terminator the syntax repair appends when it is missing -/
def httpHead (o : Opts) (c : Bytes) : Bytes :=
  if !(headerBytes c).2.2 && o.fixSyntaxErrors then (headerBytes c).1 ++ crlf else (headerBytes c).1

/-- the HTTP block constructor returned: the block is explicit, the header changed at most by the Content-Length + 2
    that goes with an appended terminator, and the checks an axis at `fail` makes were passed -/
theorem newHttpBlock_ok {o : Opts} {Ω : Oracles} {c : Bytes} {bd pd : Digest} {s s' : St} {b : Block}
    (h : newHttpBlock o Ω c bd pd s = (.ok b, s')) :
    b = { kind := if hasPrefix (bs "HTTP") (httpHead o c) then .httpResp else .httpReq,
          raw := httpHead o c ++ (headerBytes c).2.1, headLen := (httpHead o c).length,
          blockDigest := bd, payloadDigest := some pd } ∧
    s'.hdr = (if !(headerBytes c).2.2 && o.fixSyntaxErrors && s.hdr.has (bs "Content-Length")
              then setInt s.hdr (bs "Content-Length") (wrap64 (contentLengthOf s.hdr + 2)) else s.hdr) ∧
    decide (c.length < 4) = false ∧ (o.syn = .fail → (headerBytes c).2.2 = true) ∧
    (o.blk = .fail → Ω.http (hasPrefix (bs "HTTP") (httpHead o c))
      (if !(headerBytes c).2.2 && !o.fixSyntaxErrors then httpHead o c ++ crlf else httpHead o c) = true) := by
  unfold newHttpBlock at h
  obtain ⟨_, s1, h1, g1⟩ := bind_ok h
  obtain ⟨_, s2, h2, g2⟩ := bind_ok g1
  rw [M.hdr_bind, M.setHdr_bind] at g2
  obtain ⟨_, s3, h3, g3⟩ := bind_ok g2
  obtain ⟨rfl, rfl⟩ := pure_ok g3
  exact ⟨rfl, by rw [(condSite_ok h3).1, (condSite_ok h2).1, (condFail_ok h1).2], (condFail_ok h1).1,
    fun hf => by simpa using (condSite_ok h2).2.1 hf, fun hf => by simpa [httpHead] using (condSite_ok h3).2.1 hf⟩

theorem wfFinish_ok {blk : Pol} {fixWf : Bool} {c : Bytes} {bd : Digest} {res : ParseRes} {s s' : St} {b : Block}
    (h : wfFinish blk fixWf c bd res s = (.ok b, s')) :
    ∃ fs f st, res = .ok fs f st ∧ b = wfBlockOf fixWf c bd fs f ∧ (blk = .fail → f = []) ∧ s'.hdr = s.hdr := by
  rw [wfFinish_eq] at h
  obtain ⟨_, t1, h1, h⟩ := bind_ok h
  cases res with
  | err t f => cases h
  | ok fs f st =>
    obtain ⟨rfl, rfl⟩ := pure_ok h
    exact ⟨fs, f, st, rfl, rfl, fun hb => List.map_eq_nil_iff.mp ((report_ok h1).2.1 hb), (report_ok h1).1⟩

theorem wfDetectFix_only_raw (c : Bytes) (b : Block) : ∃ raw, wfDetectFix c b = { b with raw := raw } := by
  unfold wfDetectFix
  split
  · split
    · exact ⟨_, rfl⟩
    · exact ⟨_, rfl⟩
  · exact ⟨_, rfl⟩

/-- the warc-fields block constructor returned: the header is untouched, the block is a warc-fields block with the given
    digest object, and it holds the content as given unless the rewrite option is on -/
theorem newWarcFieldsBlock_ok {o : Opts} {c : Bytes} {fault : Bool} {bd : Digest} {s s' : St} {b : Block}
    (h : newWarcFieldsBlock o c fault bd s = (.ok b, s')) :
    s'.hdr = s.hdr ∧ (o.fixWarcFieldsBlockErrors = false → b.raw = c) ∧
    (∃ fs f st, parseFields o.syn ⟨c, false⟩ = .ok fs f st) ∧
    ∃ raw, b = { kind := .warcFields, raw := raw, headLen := 0, blockDigest := bd, payloadDigest := none } := by
  unfold newWarcFieldsBlock at h
  obtain ⟨_, s1, h1, g1⟩ := bind_ok h
  obtain ⟨b0, s2, h2, g2⟩ := bind_ok g1
  obtain ⟨fs, f, st, hres, hb0, -, k2⟩ := wfFinish_ok h2
  obtain ⟨rfl, rfl⟩ := pure_ok g2
  refine ⟨by rw [k2, (condSite_ok h1).1], fun hwf => by simp [hwf, hb0, wfBlockOf], ⟨fs, f, st, hres⟩, ?_⟩
  rw [hb0]
  split
  · exact wfDetectFix_only_raw c _
  · exact ⟨_, rfl⟩

/-- the four constructors of parseBlock -/
inductive BlockCtor | http | revisit | warcFields | generic

/-- which constructor parseBlock uses is decided by the skip option, the record type and the Content-Type value alone -/
def blockCtor (o : Opts) (rt : Nat) (h : Fields) : BlockCtor :=
  if !o.skipParseBlock && rt &&& Gen.httpBlockMask != 0 && hasPrefix (bs Gen.c_ApplicationHttp) (lowerKey (h.get (bs "Content-Type"))) then .http
  else if !o.skipParseBlock && rt == RT_Revisit then .revisit
  else if !o.skipParseBlock && hasPrefix (bs Gen.c_ApplicationWarcFields) (lowerKey (h.get (bs "Content-Type"))) then .warcFields
  else .generic

/-- the block parseBlock returns when none of its sites fires: the content as given -/
def plainBlock (k : BlockCtor) (rt : Nat) (c : Bytes) (bd pd : Digest) : Block :=
  match k with
  | .http => { kind := if hasPrefix (bs "HTTP") (headerBytes c).1 then .httpResp else .httpReq, raw := c,
               headLen := (headerBytes c).1.length, blockDigest := bd, payloadDigest := some pd }
  | .revisit => { kind := .revisit, raw := c, headLen := c.length, blockDigest := bd, payloadDigest := none }
  | .warcFields => { kind := .warcFields, raw := c, headLen := 0, blockDigest := bd, payloadDigest := none }
  | .generic => { kind := .generic, raw := c, headLen := 0, blockDigest := bd, payloadDigest := if rt == RT_Resource then some pd else none }

section
variable (k : BlockCtor) (rt : Nat) (c : Bytes) (bd pd : Digest)
@[simp] theorem plainBlock_raw : (plainBlock k rt c bd pd).raw = c := by cases k <;> rfl
@[simp] theorem plainBlock_blockDigest : (plainBlock k rt c bd pd).blockDigest = bd := by cases k <;> rfl
/-- the digest objects do not decide whether a block has a payload, nor which bytes it is -/
theorem plainBlock_payload (bd' pd' : Digest) : (plainBlock k rt c bd pd).payload = (plainBlock k rt c bd' pd').payload := by
  cases k <;> rfl
theorem plainBlock_payloadDigest (bd' pd' : Digest) {q : Digest} (h : (plainBlock k rt c bd pd).payloadDigest = some q) :
    q = pd ∧ (plainBlock k rt c bd' pd').payloadDigest = some pd' := by
  cases k <;> simp only [plainBlock] at h ⊢
  · cases h; exact ⟨rfl, trivial⟩
  · cases h
  · cases h
  · split at h
    · cases h; exact ⟨rfl, if_pos ‹_›⟩
    · cases h
end

/-- parseBlock needs both digest objects, and is then a dispatch to one of the four constructors -/
theorem parseBlock_run (o : Opts) (Ω : Oracles) (rt : Nat) (c : Bytes) (fault : Bool) (s : St) :
    parseBlock o Ω rt c fault s =
      match digestOfField o s.hdr (bs "WARC-Block-Digest"), digestOfField o s.hdr (bs "WARC-Payload-Digest") with
      | some bd, some pd =>
        match blockCtor o rt s.hdr with
        | .http => newHttpBlock o Ω c bd pd s
        | .revisit => (if fault then M.fail .reader else pure (plainBlock .revisit rt c bd pd)) s
        | .warcFields => newWarcFieldsBlock o c fault bd s
        | .generic => (pure (plainBlock .generic rt c bd pd) : M Block) s
      | _, _ => (.error .digestAlg, s) := by
  unfold parseBlock blockCtor
  simp only [M.bind_def, digestFromField_eq, M.hdr_def]
  cases digestOfField o s.hdr (bs "WARC-Block-Digest") with
  | none => rfl
  | some bd =>
    dsimp only
    cases digestOfField o s.hdr (bs "WARC-Payload-Digest") with
    | none => rfl
    | some pd =>
      dsimp only
      split
      · rfl
      split
      · rfl
      split <;> rfl

/-- **parseBlock returned**: both digest objects exist, and the block came from one of the four constructors; only the
    HTTP constructor may have touched the header -/
theorem parseBlock_ok {o : Opts} {Ω : Oracles} {rt : Nat} {c : Bytes} {fault : Bool} {s s' : St} {b : Block}
    (h : parseBlock o Ω rt c fault s = (.ok b, s')) :
    ∃ bd pd, digestOfField o s.hdr (bs "WARC-Block-Digest") = some bd ∧ digestOfField o s.hdr (bs "WARC-Payload-Digest") = some pd ∧
      (newHttpBlock o Ω c bd pd s = (.ok b, s') ∨
       (fault = false ∧ s' = s ∧ b = plainBlock .revisit rt c bd pd) ∨
       newWarcFieldsBlock o c fault bd s = (.ok b, s') ∨
       (s' = s ∧ b = plainBlock .generic rt c bd pd)) := by
  rw [parseBlock_run] at h
  split at h
  · next bd pd hbd hpd =>
    refine ⟨bd, pd, hbd, hpd, ?_⟩
    split at h
    · exact .inl h
    · cases fault
      · obtain ⟨rfl, rfl⟩ := pure_ok h
        exact .inr (.inl ⟨rfl, rfl, rfl⟩)
      · cases h
    · exact .inr (.inr (.inl h))
    · obtain ⟨rfl, rfl⟩ := pure_ok h
      exact .inr (.inr (.inr ⟨rfl, rfl⟩))
  · cases h

/-! ### ValidateDigest -/

variable (H : Alg → Bytes → Bytes)

/-- whether a digest step writes its field: it adds a missing value, or repairs a wrong one -/
def digestWrites (o : Opts) (d : Digest) (data : Bytes) : Bool :=
  if d.hash.isEmpty then o.addMissingDigest else o.spec != .ignore && !d.valid H data && o.fixDigest

/-- one digest step returned: its field holds the true digest if the step writes, the header is otherwise as it was;
    nothing was reported unless the spec axis warns -/
theorem checkDigest_ok {o : Opts} {field : Bytes} {tag : Tag} {d : Digest} {data : Bytes} {s s' : St} {u : Unit}
    (h : checkDigest H o field tag d data s = (.ok u, s')) :
    s'.hdr = s.hdr.setIf (digestWrites H o d data) field (d.format H data) ∧ (o.spec ≠ .warn → s'.fnd = s.fnd) := by
  unfold checkDigest at h
  rw [M.hdr_bind] at h
  unfold digestWrites Fields.setIf
  split at h
  · rename_i he
    cases h
    exact ⟨by simp only [he, ↓reduceIte], fun _ => rfl⟩
  · rename_i he
    obtain ⟨_, s1, h1, g1⟩ := bind_ok h
    cases g1
    obtain ⟨k1, -, kw⟩ := condSite_ok h1
    exact ⟨by simp only [he, Bool.false_eq_true, ↓reduceIte, k1], fun hw => by rw [kw hw]⟩

/-- the header after the length repair and the block-digest step of ValidateDigest -/
def afterBlockDigest (o : Opts) (b : Block) (h : Fields) : Fields :=
  (h.setIf (lengthBad o h b && o.fixContentLength) (bs "Content-Length") (natToDec b.raw.length)).setIf
    (digestWrites H o b.blockDigest b.raw) (bs "WARC-Block-Digest") (b.blockDigest.format H b.raw)

/-- the header ValidateDigest leaves when it returns: the payload-digest step is skipped for revisit and segmented records -/
def validatedHdr (o : Opts) (rt : Nat) (b : Block) (h : Fields) : Fields :=
  if rt == RT_Revisit || (afterBlockDigest H o b h).has (bs "WARC-Segment-Number") then afterBlockDigest H o b h
  else match b.payloadDigest with
    | some pd => (afterBlockDigest H o b h).setIf (digestWrites H o pd b.payload) (bs "WARC-Payload-Digest") (pd.format H b.payload)
    | none => afterBlockDigest H o b h

/-- **ValidateDigest returned**: the header it leaves is an explicit function of the header it found; a block that had
    to be cached was read without fault; under `fail` the declared length was right; no finding unless the spec axis warns -/
theorem validateDigest_ok {o : Opts} {rt : Nat} {b : Block} {fault : Bool} {s s' : St} {u : Unit}
    (h : validateDigest H o rt b fault s = (.ok u, s')) :
    s'.hdr = validatedHdr H o rt b s.hdr ∧
    (fault && (b.kind == .generic || b.kind == .httpReq || b.kind == .httpResp)) = false ∧
    (o.spec = .fail → lengthBad o s.hdr b = false) ∧ (o.spec ≠ .warn → s'.fnd = s.fnd) := by
  unfold validateDigest at h
  obtain ⟨_, s1, h1, g1⟩ := bind_ok h
  obtain ⟨hc, e1⟩ := condFail_ok h1
  rw [M.hdr_bind, e1] at g1
  obtain ⟨_, s2, h2, g2⟩ := bind_ok g1
  obtain ⟨k2, kf2, kw2⟩ := condSite_ok h2
  rw [M.hdr_bind, M.setHdr_bind, k2] at g2
  obtain ⟨_, s3, h3, g3⟩ := bind_ok g2
  obtain ⟨k3, kw3⟩ := checkDigest_ok H h3
  have e3 : s3.hdr = afterBlockDigest H o b s.hdr := k3
  rw [M.hdr_bind, e3] at g3
  refine ⟨?_, hc, kf2, ?_⟩
  · unfold validatedHdr
    split at g3
    · rename_i hsk
      rw [(pure_ok g3).2, if_pos hsk, e3]
    · rename_i hsk
      rw [if_neg hsk]
      cases hpd : b.payloadDigest with
      | some pd => rw [hpd] at g3; rw [(checkDigest_ok H g3).1, e3]
      | none => rw [hpd] at g3; rw [(pure_ok g3).2, e3]
  · intro hw
    have f3 : s3.fnd = s.fnd := by rw [kw3 hw]; rw [kw2 hw]
    split at g3
    · rw [(pure_ok g3).2, f3]
    · cases hpd : b.payloadDigest with
      | some pd => rw [hpd] at g3; rw [(checkDigest_ok H g3).2 hw, f3]
      | none => rw [hpd] at g3; rw [(pure_ok g3).2, f3]

/-- the payload-digest step is the only difference between `validatedHdr` and `afterBlockDigest` -/
theorem get_validatedHdr_other (o : Opts) (rt : Nat) (b : Block) (h : Fields) {k : Bytes}
    (hk : canon k ≠ canon (bs "WARC-Payload-Digest")) : (validatedHdr H o rt b h).get k = (afterBlockDigest H o b h).get k := by
  unfold validatedHdr
  split
  · rfl
  · split
    · exact get_setIf_other hk
    · rfl

theorem get_validatedHdr_length (o : Opts) (rt : Nat) (b : Block) (h : Fields) :
    (validatedHdr H o rt b h).get (bs "Content-Length") =
      if lengthBad o h b && o.fixContentLength then natToDec b.raw.length else h.get (bs "Content-Length") := by
  rw [get_validatedHdr_other H o rt b h CL_ne_PD, afterBlockDigest, get_setIf_other CL_ne_BD, get_setIf_same]

theorem get_validatedHdr_block (o : Opts) (rt : Nat) (b : Block) (h : Fields) :
    (validatedHdr H o rt b h).get (bs "WARC-Block-Digest") =
      if digestWrites H o b.blockDigest b.raw then b.blockDigest.format H b.raw else h.get (bs "WARC-Block-Digest") := by
  rw [get_validatedHdr_other H o rt b h BD_ne_PD, afterBlockDigest, get_setIf_same, get_setIf_other CL_ne_BD.symm]

theorem get_validatedHdr_payload (o : Opts) (rt : Nat) (b : Block) (h : Fields) (pd : Digest) (hpd : b.payloadDigest = some pd)
    (hnr : (rt == RT_Revisit) = false) (hseg : h.has (bs "WARC-Segment-Number") = false) :
    (validatedHdr H o rt b h).get (bs "WARC-Payload-Digest") =
      if digestWrites H o pd b.payload then pd.format H b.payload else h.get (bs "WARC-Payload-Digest") := by
  have hs : (afterBlockDigest H o b h).has (bs "WARC-Segment-Number") = false := by
    unfold afterBlockDigest; rw [has_setIf_other Seg_ne_BD, has_setIf_other Seg_ne_CL, hseg]
  unfold validatedHdr
  rw [hnr, hs, hpd]
  simp only [Bool.or_self, Bool.false_eq_true, ↓reduceIte]
  rw [get_setIf_same]
  unfold afterBlockDigest
  rw [get_setIf_other BD_ne_PD.symm, get_setIf_other CL_ne_PD.symm]

theorem digestWrites_missing {o : Opts} {d : Digest} (data : Bytes) (he : d.hash = []) (hadd : o.addMissingDigest = true) :
    digestWrites H o d data = true := by
  simp [digestWrites, he, hadd]

/-- with spec checking and the digest options on, a digest step that does not write found a correct declared value -/
theorem valid_of_not_writes {o : Opts} {d : Digest} {data : Bytes} (hspec : o.spec ≠ .ignore) (hfix : o.fixDigest = true)
    (hadd : o.addMissingDigest = true) (hw : ¬ digestWrites H o d data = true) : d.valid H data = true := by
  have hs : (o.spec != .ignore) = true := by simp [hspec]
  unfold digestWrites at hw
  split at hw
  · exact absurd hadd hw
  · simpa [hs, hfix] using hw

/-! ### Build -/

/-- **the monadic part of Build returned**: header validation (which leaves the header alone), the block, the adjustment
    of a Content-Length the builder added itself, ValidateDigest; the record carries the header ValidateDigest left -/
theorem buildBody_ok {o : Opts} {Ω : Oracles} {vt : Bytes} {vi rt0 : Nat} {cla : Bool} {c : Bytes} {s s' : St} {r : Rec}
    (h : buildBody H o Ω vt vi rt0 cla c s = (.ok r, s')) :
    ∃ rtv b s1 s2, validateHeader o Ω vi s = (.ok rtv, s1) ∧ s1.hdr = s.hdr ∧
      parseBlock o Ω (if rt0 == 0 then rtv else rt0) c false s1 = (.ok b, s2) ∧
      validateDigest H o (if rt0 == 0 then rtv else rt0) b false
        ⟨s2.hdr.setIf (cla && b.kind == .warcFields && b.raw.length != c.length) (bs "Content-Length") (intToDec b.raw.length), s2.fnd⟩
        = (.ok (), s') ∧
      r = ⟨vt, vi, if rt0 == 0 then rtv else rt0, s'.hdr, b⟩ := by
  unfold buildBody at h
  obtain ⟨rtv, s1, h1, g1⟩ := bind_ok h
  obtain ⟨b, s2, h2, g2⟩ := bind_ok g1
  rw [M.hdr_bind, M.setHdr_bind] at g2
  obtain ⟨_, s3, h3, g3⟩ := bind_ok g2
  obtain ⟨rfl, rfl⟩ := pure_ok g3
  exact ⟨rtv, b, s1, s2, h1, keep_of_eq (validateHeader_keep o Ω vi) h1, h2, h3, rfl⟩

/-- the two preparations of Build touch no field but the record id and Content-Length -/
theorem has_builderHdr_other (o : Opts) (hdr : Fields) (c id k : Bytes)
    (h1 : canon k ≠ canon (bs "WARC-Record-ID")) (h2 : canon k ≠ canon (bs "Content-Length")) :
    (builderHdr o hdr c id).has k = hdr.has k := by
  have hid : (if o.addMissingRecordId && !hdr.has (bs "WARC-Record-ID") then hdr.setId (bs "WARC-Record-ID") id else hdr).has k = hdr.has k := by
    split
    · exact has_setId_other h1
    · rfl
  unfold builderHdr
  generalize (if o.addMissingRecordId && !hdr.has (bs "WARC-Record-ID") then hdr.setId (bs "WARC-Record-ID") id else hdr) = hdr1 at hid
  split
  · unfold setInt; rw [has_set_other h2]; exact hid
  · exact hid

/-- a Content-Length that Build adds itself is the length of the content it was given -/
theorem builderHdr_added {o : Opts} {hdr : Fields} {id : Bytes} (c : Bytes) (h : builderAddsCL o hdr id = true) :
    (builderHdr o hdr c id).has (bs "Content-Length") = true ∧ (builderHdr o hdr c id).get (bs "Content-Length") = natToDec c.length := by
  unfold builderAddsCL at h
  unfold builderHdr
  rw [if_pos h]
  exact ⟨has_set_same _ _ _, get_set_same _ _ _⟩

theorem has_builderHdr_length {o : Opts} (hdr : Fields) (c id : Bytes) (hadd : o.addMissingContentLength = true) :
    (builderHdr o hdr c id).has (bs "Content-Length") = true := by
  cases h : builderAddsCL o hdr id
  · unfold builderAddsCL at h
    unfold builderHdr
    rw [if_neg (by rw [h]; exact Bool.false_ne_true)]
    simpa [hadd] using h
  · exact (builderHdr_added c h).1

/-- **Build returned a record**: it is what `buildBody` returned on the completed header -/
theorem build_ok {o : Opts} {Ω : Oracles} {vt : Bytes} {vi rt0 : Nat} {hdr : Fields} {c id : Bytes} {r : Rec}
    (h : (build H o Ω vt vi rt0 hdr c id).record = some r) :
    ∃ s', buildBody H o Ω vt vi rt0 (builderAddsCL o hdr id) c ⟨builderHdr o hdr c id, []⟩ = (.ok r, s') := by
  rw [build_eq] at h
  exact ⟨_, Prod.ext (BRes.ofRun_ok h) rfl⟩

theorem httpHead_unrepaired {o : Opts} (c : Bytes) (hfix : o.fixSyntaxErrors = false) : httpHead o c = (headerBytes c).1 := by
  simp [httpHead, hfix]

/-- the block a successful parseBlock returns holds exactly the content bytes (no syntax / warc-fields repair) -/
theorem parseBlock_raw {o : Opts} {Ω : Oracles} {rt : Nat} {c : Bytes} {fault : Bool} {s s' : St} {b : Block}
    (hfix : o.fixSyntaxErrors = false) (hwf : o.fixWarcFieldsBlockErrors = false)
    (h : parseBlock o Ω rt c fault s = (.ok b, s')) : b.raw = c := by
  obtain ⟨bd, pd, -, -, hh | ⟨-, -, rfl⟩ | hw | ⟨-, rfl⟩⟩ := parseBlock_ok h
  · rw [(newHttpBlock_ok hh).1, httpHead_unrepaired c hfix]; exact headerBytes_append c
  · rfl
  · exact (newWarcFieldsBlock_ok hw).2.1 hwf
  · rfl

/-- **validation observes**: with the repair options off, under EVERY policy setting, a record returned by Unmarshal has
    exactly the parsed header fields — names and values untouched — and exactly the declared block -/
theorem unmarshalTail_observes {o : Opts} {Ω : Oracles} {vt : Bytes} {vi : Nat} {fs : Fields} {s' : Stream} {st st' : St}
    {r : Rec} {rest : Bytes} (hrep : RepairsOff o) (hwf : o.fixWarcFieldsBlockErrors = false)
    (h : unmarshalTail H o Ω vt vi fs s' st = (.ok (some r, rest), st')) :
    r.hdr = fs ∧ r.block.raw = declaredBlock fs s' := by
  obtain ⟨rt, s2, b, s4, s5, _, k2, h4, h5, _, h7, hr, _⟩ := unmarshalTail_ok H h
  cases hr
  exact ⟨by rw [(condSite_ok h7).1, keep_of_eq (validateDigest_keep H o _ _ _ hrep) h5, keep_of_eq (parseBlock_keep o Ω _ _ _ hrep) h4, k2],
    parseBlock_raw hrep.fixSyn hwf h4⟩

end Gowarc
