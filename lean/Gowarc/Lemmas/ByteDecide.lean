import Gowarc.Model.Basic
/-! `decide` over all 256 byte values: core has no `Fintype UInt8`, but `∀ v : BitVec 8` is decidable.
    Beside it what the three codecs share: bounds on masked and shifted bytes, and the algebra of shifts, masks and
    ors (`Byte`), with `masks` for identities that say the pieces cut out of a byte make up the byte again. -/
namespace Gowarc

instance instDecidableForallUInt8 (P : UInt8 → Prop) [DecidablePred P] : Decidable (∀ b : UInt8, P b) :=
  decidable_of_iff (∀ v : BitVec 8, P (UInt8.ofBitVec v)) ⟨fun h b => h b.toBitVec, fun h _ => h _⟩

namespace Byte

theorem and_lt (a : UInt8) {m n : UInt8} (h : m < n) : a &&& m < n := UInt8.lt_of_le_of_lt UInt8.and_le_right h

theorem shr_lt (a : UInt8) {k n : UInt8} (h : 256 ≤ n.toNat * 2 ^ (k.toNat % 8)) : a >>> k < n := by
  rw [UInt8.lt_iff_toNat_lt, UInt8.toNat_shiftRight, Nat.shiftRight_eq_div_pow, Nat.div_lt_iff_lt_mul (Nat.pow_pos (by decide))]
  exact Nat.lt_of_lt_of_le a.toNat_lt h

/-! Masks distribute over ors (core has it for shifts: `UInt8.shiftLeft_or`, `UInt8.shiftRight_or`). -/
theorem and_or (x y m : UInt8) : (x ||| y) &&& m = x &&& m ||| y &&& m := UInt8.toBitVec_inj.1 BitVec.and_or_distrib_right
theorem and_or_left (x m n : UInt8) : x &&& (m ||| n) = x &&& m ||| x &&& n := UInt8.toBitVec_inj.1 BitVec.and_or_distrib_left

/-! A shift there and back is a mask; two shifts the same way by 8 or more in all leave nothing. -/
theorem shr_shl (x k : UInt8) : x >>> k <<< k = x &&& 255 <<< k :=
  UInt8.toBitVec_inj.1 (by simp [BitVec.shiftLeft_ushiftRight])

theorem shl_shr (x k : UInt8) : x <<< k >>> k = x &&& 255 >>> k := by
  apply UInt8.eq_of_toBitVec_eq
  ext i hi
  have h255 : (255#8).getLsbD (k.toNat % 8 + i) = decide (k.toNat % 8 + i < 8) := BitVec.getLsbD_allOnes
  simp [h255, hi, Nat.not_lt.2 (Nat.le_add_right ..), Bool.and_comm]

theorem shl_shl (x : UInt8) {j k : UInt8} (h : 8 ≤ j.toNat % 8 + k.toNat % 8) : x <<< j <<< k = 0 :=
  UInt8.toBitVec_inj.1 (by simpa [← BitVec.shiftLeft_add] using BitVec.shiftLeft_eq_zero h)

theorem shr_shr (x : UInt8) {j k : UInt8} (h : 8 ≤ j.toNat % 8 + k.toNat % 8) : x >>> j >>> k = 0 :=
  UInt8.toBitVec_inj.1 (by simpa [← BitVec.shiftRight_add] using BitVec.ushiftRight_eq_zero h)

theorem and_full {x m : UInt8} (h : m = 255) : x &&& m = x := h ▸ UInt8.and_neg_one

end Byte

/-- `… = x` for a left side built from shifts, masks and ors of bytes: shifts and masks are pushed through the ors,
    every piece becomes `0` or `x &&& m` with `m` closed, and the masks of `x` together are 255 -/
macro "masks" : tactic => `(tactic| (
  simp (disch := decide) only [Byte.and_or, UInt8.shiftLeft_or, UInt8.shiftRight_or, UInt8.shiftLeft_and, UInt8.shiftRight_and,
    Byte.shr_shl, Byte.shl_shr, Byte.shl_shl, Byte.shr_shr, UInt8.zero_and, UInt8.zero_or, UInt8.or_zero, UInt8.and_assoc,
    ← Byte.and_or_left]
  exact Byte.and_full (by decide)))

namespace Byte
/-! the two nibbles of a byte -/
theorem hi_lt (x : UInt8) : x >>> 4 < 16 := shr_lt x (by decide)
theorem lo_lt (x : UInt8) : x &&& 15 < 16 := and_lt x (by decide)
theorem nib_join (x : UInt8) : (x >>> 4) <<< 4 ||| (x &&& 15) = x := by masks
end Byte

end Gowarc
