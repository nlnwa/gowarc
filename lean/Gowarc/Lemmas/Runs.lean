/-
  Runs that returned, first part: the bytes Content-Length frames and what lies behind them (`declaredBlock`, `afterBlock`,
  `trailerRest`), the run of Unmarshal behind the header parser taken apart once (`unmarshalTail_ok`), and one round of
  the file reader's loop over Unmarshal (`readLoop_err`, `readLoop_succ`). Lemmas/Inversion.lean does the same for the block
  constructors, ValidateDigest and Build.
-/
import Gowarc.Lemmas.KeepHdr
import Gowarc.Model.Reader
namespace Gowarc

/-- the value a computation returns, if it returns one -/
def okVal {α} (r : Except Tag α × St) : Option α := match r.1 with | .ok a => some a | .error _ => none

variable (H : Alg → Bytes → Bytes)

/-- the bytes Content-Length frames behind the header section -/
def declaredBlock (fs : Fields) (s' : Stream) : Bytes :=
  if contentLengthOf fs < 0 then s'.rest else s'.rest.take (contentLengthOf fs).toNat

/-- the bytes behind the declared block -/
def afterBlock (fs : Fields) (s' : Stream) : Bytes :=
  if contentLengthOf fs < 0 then [] else s'.rest.drop (contentLengthOf fs).toNat

/-- the reader of the declared block meets the stream's fault -/
def blockFault (fs : Fields) (s' : Stream) : Bool :=
  s'.fault && (decide (contentLengthOf fs < 0) || decide (s'.rest.length < (contentLengthOf fs).toNat))

/-- where the trailer check leaves the stream -/
def trailerRest (after : Bytes) : Bytes :=
  if after.take 4 == crlfcrlf then after.drop 4 else after.drop (trailerConsumed (after.take 4))

theorem afterBlock_length_le (fs : Fields) (s' : Stream) : (afterBlock fs s').length ≤ s'.rest.length := by
  unfold afterBlock; split <;> simp

theorem trailerRest_length_le (after : Bytes) : (trailerRest after).length ≤ after.length := by
  unfold trailerRest; split <;> simp

theorem declaredBlock_of_length {fs : Fields} {n : Nat} (s' : Stream) (hcl : contentLengthOf fs = (n : Int)) :
    declaredBlock fs s' = s'.rest.take n ∧ afterBlock fs s' = s'.rest.drop n := by
  have hneg : ¬ ((n : Int) < 0) := by omega
  simp only [declaredBlock, afterBlock, hcl, hneg, ↓reduceIte, Int.toNat_natCast, and_self]

/-- **the pieces of a run of Unmarshal behind the header parser that returned**: header validation (which leaves the
    parsed fields alone), the block cut out by Content-Length, ValidateDigest; the record carries the header as
    ValidateDigest left it, and the stream stands behind the trailer. Every theorem about a returned record starts here. -/
theorem unmarshalTail_ok {o : Opts} {Ω : Oracles} {vt : Bytes} {vi : Nat} {fs : Fields} {s' : Stream} {st st' : St}
    {ro : Option Rec} {rest : Bytes} (h : unmarshalTail H o Ω vt vi fs s' st = (.ok (ro, rest), st')) :
    ∃ rt s2 b s4 s5, validateHeader o Ω vi ⟨fs, st.fnd⟩ = (.ok rt, s2) ∧ s2.hdr = fs ∧
      parseBlock o Ω rt (declaredBlock fs s') (blockFault fs s') s2 = (.ok b, s4) ∧
      validateDigest H o rt b (blockFault fs s') s4 = (.ok (), s5) ∧
      (blockFault fs s' && b.kind == .warcFields) = false ∧
      condSite ((afterBlock fs s').take 4 != crlfcrlf) o.spec .specTrailer s5 = (.ok (), st') ∧
      ro = some ⟨vt, vi, rt, st'.hdr, b⟩ ∧ rest = trailerRest (afterBlock fs s') := by
  unfold unmarshalTail at h
  obtain ⟨_, s1, h1, h⟩ := bind_ok h
  simp only [M.setHdr_def, Prod.mk.injEq, true_and] at h1
  subst h1
  obtain ⟨rt, s2, h2, h⟩ := bind_ok h
  have k2 : s2.hdr = fs := keep_of_eq (validateHeader_keep o Ω vi) h2
  obtain ⟨hd, s3, h3, h⟩ := bind_ok h
  obtain ⟨rfl, rfl⟩ := h3
  rw [k2] at h
  obtain ⟨b, s4, h4, h⟩ := bind_ok h
  obtain ⟨_, s5, h5, h⟩ := bind_ok h
  obtain ⟨_, s6, h6, h⟩ := bind_ok h
  obtain ⟨_, s7, h7, h⟩ := bind_ok h
  obtain ⟨⟨rfl, rfl⟩, rfl⟩ := h
  obtain ⟨k6, rfl⟩ := condFail_ok h6
  exact ⟨rt, s2, b, s4, s6, h2, k2, h4, h5, k6, h7, rfl, rfl⟩

/-- **what comes out of it**: a record of the version that was read; the stream behind the trailer (or behind what stands
    in its place); and, unless the spec policy is ignore, the trailer finding whenever the four bytes behind the block
    are not CR LF CR LF -/
theorem unmarshalTail_out {o : Opts} {Ω : Oracles} {vt : Bytes} {vi : Nat} {fs : Fields} {s' : Stream} {st st' : St}
    {r : Option Rec} {rest : Bytes} (h : unmarshalTail H o Ω vt vi fs s' st = (.ok (r, rest), st')) :
    (∃ rc, r = some rc ∧ rc.verTxt = vt ∧ rc.verId = vi) ∧ rest = trailerRest (afterBlock fs s') ∧
    (o.spec ≠ .ignore → (afterBlock fs s').take 4 = crlfcrlf ∨ Tag.specTrailer ∈ st'.fnd) := by
  obtain ⟨rt, s2, b, s4, s5, _, _, _, _, _, h7, hr, hrest⟩ := unmarshalTail_ok H h
  refine ⟨⟨_, hr, rfl, rfl⟩, hrest, fun hspec => ?_⟩
  by_cases htr : (afterBlock fs s').take 4 = crlfcrlf
  · exact .inl htr
  · right
    rw [show ((afterBlock fs s').take 4 != crlfcrlf) = true by simp [htr], condSite_true] at h7
    cases hp : o.spec with
    | ignore => exact absurd hp hspec
    | fail => rw [hp] at h7; cases h7
    | warn => rw [hp] at h7; cases h7; simp

theorem unmarshalTail_rest_le {o : Opts} {Ω : Oracles} {vt : Bytes} {vi : Nat} {fs : Fields} {s' : Stream} {st st' : St}
    {r : Option Rec} {rest : Bytes} (h : unmarshalTail H o Ω vt vi fs s' st = (.ok (r, rest), st')) :
    rest.length ≤ s'.rest.length := by
  rw [(unmarshalTail_out H h).2.1]
  exact Nat.le_trans (trailerRest_length_le _) (afterBlock_length_le fs s')

/-- a record (or a silently skipped one) comes out of `unmarshalBody` only through the header parser and `unmarshalTail` -/
theorem unmarshalBody_ok {o : Opts} {Ω : Oracles} {s : Stream} {vl : Bytes} {st st' : St} {r : Option Rec} {rest : Bytes}
    (h : unmarshalBody H o Ω s vl st = (.ok (r, rest), st')) :
    ∃ vt vi fs f s' st1, parseFields o.syn s = .ok fs f s' ∧ unmarshalTail H o Ω vt vi fs s' st1 = (.ok (r, rest), st') := by
  unfold unmarshalBody at h
  obtain ⟨_, t1, _, h⟩ := bind_ok h
  obtain ⟨v, t2, _, h⟩ := bind_ok h
  unfold unmarshalRest at h
  cases hp : parseFields o.syn s with
  | err t f => rw [hp] at h; simp at h
  | ok fs f s' => rw [hp] at h; obtain ⟨_, t3, _, h⟩ := bind_ok h; exact ⟨_, _, fs, f, s', t3, rfl, h⟩

/-! ### one round of the file reader's loop -/

theorem readLoop_err {o : Opts} {Ω : Oracles} {s : Stream} {e : Tag} (fuel base : Nat) (h : (unmarshal H o Ω s).err = some e) :
    readLoop H o Ω (fuel + 1) base s =
      [⟨base + (unmarshal H o Ω s).offset, (unmarshal H o Ω s).record, (unmarshal H o Ω s).fnd, some e⟩] := by
  rw [readLoop]; simp only [h]

theorem readLoop_succ {o : Opts} {Ω : Oracles} {s : Stream} (fuel base : Nat) (h : (unmarshal H o Ω s).err = none) :
    readLoop H o Ω (fuel + 1) base s =
      ⟨base + (unmarshal H o Ω s).offset, (unmarshal H o Ω s).record, (unmarshal H o Ω s).fnd, none⟩ ::
        readLoop H o Ω fuel (base + (s.rest.length - (unmarshal H o Ω s).rest.length)) ⟨(unmarshal H o Ω s).rest, s.fault⟩ := by
  rw [readLoop]; simp only [h]

end Gowarc
