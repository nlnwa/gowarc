/-
  base16 as digest.go uses it (lower-case `hex.EncodeToString`, either case accepted by `hex.DecodeString`):
  the per-digit facts, by evaluation over the 16 digits or the 256 bytes, and what follows for whole strings.
-/
import Gowarc.Model.Digest
import Gowarc.Lemmas.AsciiCase
namespace Gowarc

theorem hexNib_hexChar : ∀ n : UInt8, n < 16 → hexNib (hexChar n) = some n := by decide +kernel
theorem hexChar_lower : ∀ n : UInt8, n < 16 → toLowerB (hexChar n) = hexChar n := by decide +kernel
theorem hexChar_lt128 : ∀ n : UInt8, n < 16 → hexChar n < 128 := by decide +kernel
theorem hexChar_ne_pad (n : UInt8) (hn : n < 16) : hexChar n ≠ 61 :=
  fun h => by have := hexNib_hexChar n hn; rw [h] at this; cases this
/-- a declared base16 value in either letter case decodes alike -/
theorem hexNib_case : ∀ c : UInt8, hexNib (toLowerB c) = hexNib c := by decide +kernel

@[simp] theorem hexEnc_cons (x : UInt8) (rest : Bytes) :
    hexEnc (x :: rest) = hexChar (x >>> 4) :: hexChar (x &&& 15) :: hexEnc rest := by
  simp [hexEnc]

theorem hexEnc_length (b : Bytes) : (hexEnc b).length = b.length * 2 := by
  induction b with
  | nil => rfl
  | cons x rest ih => simp [ih]; omega

theorem hexEnc_all {P : UInt8 → Prop} (hc : ∀ n : UInt8, n < 16 → P (hexChar n)) (b : Bytes) : ∀ x ∈ hexEnc b, P x := by
  induction b with
  | nil => simp [hexEnc]
  | cons y rest ih => simpa using ⟨hc _ (Byte.hi_lt y), hc _ (Byte.lo_lt y), ih⟩

theorem hexEnc_last_ne_pad (b : Bytes) : (hexEnc b).getLast? ≠ some 61 :=
  fun h => hexEnc_all (P := (· ≠ 61)) hexChar_ne_pad b 61 (List.mem_of_getLast? h) rfl

theorem hexDec_lower : ∀ s : Bytes, hexDec (lowerAscii s) = hexDec s
  | [] => rfl
  | [x] => by simp [lowerAscii, hexDec]
  | a :: b :: rest => by
    have ih := hexDec_lower rest
    simp only [lowerAscii, List.map_cons] at ih ⊢
    rw [hexDec, hexDec, hexNib_case, hexNib_case, ih]

end Gowarc
