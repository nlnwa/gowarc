/-
  Model of the concurrency protocol of warcfile.go WarcFileWriter: n caller goroutines (each a program of Write, Rotate,
  Close calls), the dispatcher ("middle layer") goroutine, k worker goroutines; unbuffered channels middleCh, jobs,
  closing and the per-job result channel as rendezvous steps; `closed` and `jobs` being closed as flags; the wait group
  as "all workers have ended".

  A caller has at most one job outstanding, so a job is named by its caller (and, in the log, by how many calls the
  caller still had to make when it sent it).

  The per-file Write of a worker (lock, fit test, append, unlock) is one step: it takes only its own lock, always
  releases it (after the fix to continuation records: C10/F11), and Rotate takes the same locks one at a time.
-/
namespace Gowarc.Proto

inductive COp | write | rotate | close
  deriving DecidableEq, Repr

inductive CPc
  | start        -- between calls (about to make the first call in `rest`)
  | w1           -- Write: passed the first `select` (closed was open), now offering the job on middleCh
  | w2           -- Write: job handed over, waiting on the result channel
  | c2           -- Close: signalled (or saw closed), waiting for the wait group
  deriving DecidableEq, Repr

structure Caller where
  pc : CPc
  rest : List COp      -- calls still to make; the head is the call in progress unless pc = start
  deriving DecidableEq, Repr

inductive DPc
  | d0                 -- outer select: closing or middleCh
  | d1 (c : Nat)       -- holds caller c's job: inner select: closing or jobs
  | dx (c : Nat)       -- exit(v, true): closed has been closed, the last job is being sent on jobs
  | dend
  deriving DecidableEq, Repr

inductive WPc
  | k0                 -- receiving from jobs
  | k1 (c : Nat)       -- got caller c's job, writing its records
  | k2 (c : Nat)       -- sending the responses
  | k3                 -- jobs was closed: closing the file
  | kend               -- wait group Done
  deriving DecidableEq, Repr

structure LogEntry where
  worker : Nat
  caller : Nat
  seq : Nat            -- length of the caller's `rest` when the job was sent
  deriving DecidableEq, Repr

structure Result where
  seq : Nat
  responded : Bool     -- false: Write returned nil
  deriving DecidableEq, Repr

structure St where
  callers : Nat → Caller
  disp : DPc
  workers : Nat → WPc
  closed : Bool
  jobsClosed : Bool
  log : List LogEntry           -- ghost: which worker wrote which job, in order
  results : Nat → List Result   -- ghost: what each Write call returned
  rotations : Nat

def upd {α} (f : Nat → α) (i : Nat) (v : α) : Nat → α := fun j => if j = i then v else f j

@[simp] theorem upd_same {α} (f : Nat → α) (i : Nat) (v : α) : upd f i v i = v := by simp [upd]
theorem upd_other {α} (f : Nat → α) (i j : Nat) (v : α) (h : j ≠ i) : upd f i v j = f j := by simp [upd, h]

def init (progs : Nat → List COp) : St :=
  { callers := fun c => ⟨.start, progs c⟩, disp := .d0, workers := fun _ => .k0, closed := false, jobsClosed := false,
    log := [], results := fun _ => [], rotations := 0 }

/-- one step of the system with n callers and k workers -/
inductive Step (n k : Nat) : St → St → Prop
  | wStartClosed (s : St) (c : Nat) (r : List COp) : c < n → s.callers c = ⟨.start, .write :: r⟩ → s.closed = true →
      Step n k s { s with callers := upd s.callers c ⟨.start, r⟩, results := upd s.results c (s.results c ++ [⟨r.length + 1, false⟩]) }
  | wStart (s : St) (c : Nat) (r : List COp) : c < n → s.callers c = ⟨.start, .write :: r⟩ → s.closed = false →
      Step n k s { s with callers := upd s.callers c ⟨.w1, .write :: r⟩ }
  | wGiveUp (s : St) (c : Nat) (r : List COp) : c < n → s.callers c = ⟨.w1, .write :: r⟩ → s.closed = true →
      Step n k s { s with callers := upd s.callers c ⟨.start, r⟩, results := upd s.results c (s.results c ++ [⟨r.length + 1, false⟩]) }
  | wSend (s : St) (c : Nat) (r : List COp) : c < n → s.callers c = ⟨.w1, .write :: r⟩ → s.disp = .d0 →
      Step n k s { s with callers := upd s.callers c ⟨.w2, .write :: r⟩, disp := .d1 c }
  | dForward (s : St) (i c : Nat) : i < k → s.disp = .d1 c → s.workers i = .k0 →
      Step n k s { s with disp := .d0, workers := upd s.workers i (.k1 c) }
  | kWork (s : St) (i c : Nat) : i < k → s.workers i = .k1 c →
      Step n k s { s with workers := upd s.workers i (.k2 c), log := s.log ++ [⟨i, c, (s.callers c).rest.length⟩] }
  | kReply (s : St) (i c : Nat) (r : List COp) : i < k → c < n → s.workers i = .k2 c → s.callers c = ⟨.w2, .write :: r⟩ →
      Step n k s { s with workers := upd s.workers i .k0, callers := upd s.callers c ⟨.start, r⟩,
                          results := upd s.results c (s.results c ++ [⟨r.length + 1, true⟩]) }
  | cStartClosed (s : St) (c : Nat) (r : List COp) : c < n → s.callers c = ⟨.start, .close :: r⟩ → s.closed = true →
      Step n k s { s with callers := upd s.callers c ⟨.c2, .close :: r⟩ }
  | cSignal0 (s : St) (c : Nat) (r : List COp) : c < n → s.callers c = ⟨.start, .close :: r⟩ → s.disp = .d0 →
      Step n k s { s with callers := upd s.callers c ⟨.c2, .close :: r⟩, disp := .dend, closed := true, jobsClosed := true }
  | cSignal1 (s : St) (c j : Nat) (r : List COp) : c < n → s.callers c = ⟨.start, .close :: r⟩ → s.disp = .d1 j →
      Step n k s { s with callers := upd s.callers c ⟨.c2, .close :: r⟩, disp := .dx j, closed := true }
  | dLast (s : St) (i j : Nat) : i < k → s.disp = .dx j → s.workers i = .k0 →
      Step n k s { s with disp := .dend, jobsClosed := true, workers := upd s.workers i (.k1 j) }
  | cDone (s : St) (c : Nat) (r : List COp) : c < n → s.callers c = ⟨.c2, .close :: r⟩ → (∀ i, i < k → s.workers i = .kend) →
      Step n k s { s with callers := upd s.callers c ⟨.start, r⟩ }
  | kExit (s : St) (i : Nat) : i < k → s.workers i = .k0 → s.jobsClosed = true →
      Step n k s { s with workers := upd s.workers i .k3 }
  | kClose (s : St) (i : Nat) : i < k → s.workers i = .k3 →
      Step n k s { s with workers := upd s.workers i .kend }
  | rotate (s : St) (c : Nat) (r : List COp) : c < n → s.callers c = ⟨.start, .rotate :: r⟩ →
      Step n k s { s with callers := upd s.callers c ⟨.start, r⟩, rotations := s.rotations + 1 }

inductive Reach (n k : Nat) (progs : Nat → List COp) : St → Prop
  | init : Reach n k progs (init progs)
  | step (s s' : St) : Reach n k progs s → Step n k s s' → Reach n k progs s'

def finished (s : St) (c : Nat) : Prop := s.callers c = ⟨.start, []⟩

end Gowarc.Proto
