/-
  The lock discipline of the library's shared state, as a decidable check over the table the translator extracts
  (Gen/SharedAccess.lean):

  * package-level variables are written only during package initialisation;
  * the mutable fields of singleWarcFileWriter (those some method assigns) are written AND read only by methods that run
    under writeLock: a method runs under the lock if no call path from outside the type reaches it without passing a
    method that takes the lock; a method that takes the lock but has statements outside the locked region (before
    Lock(), after an explicit Unlock()) appears twice: `m` for the locked part, `m!` for the rest, and `m!` is entered
    by whoever enters `m`;
  * calls that the callee's documentation declares not thread-safe happen only in `init`;
  * the name generator and the WarcFileWriter do not assign their own fields in methods that workers/callers run
    concurrently (the serial number is bumped atomically);
  * an object handed to a sync.Pool is not kept.
-/
namespace Gowarc.Discipline

structure Table where
  pkgVarWrites : List (String × String × String)
  writerFieldWrites : List (String × String)
  writerFieldReads : List (String × String)
  lockHolders : List String
  innerCalls : List (String × String)
  outerCalls : List (String × String)
  unsafeExternalCalls : List (String × String)
  generatorFieldWrites : List (String × String)
  writerStructWrites : List (String × String)
  poolPuts : List (String × String × String)
  pkgObjects : List (String × String × String) := []
  readerFieldWrites : List (String × String) := []
  optsFieldWrites : List (String × String) := []

/-- makers of package-level objects whose results are immutable after package initialisation (error values, version
    descriptors, tables and slices no function assigns to — assignments are `pkgVarWrites`) or documented as safe for
    concurrent use (sync.Pool). Anything else held in a package-level variable — a buffer, a reader, a cache — is state
    that every goroutine using the package shares behind the API. -/
def allowedMakers : List String :=
  ["call errors.New", "call fmt.Errorf", "lit sync.Pool", "lit WarcVersion", "call make"]

/-- a maker is allowed when it is in the list, or a slice or map literal of any element type: a table. Tables are read-only
    after package initialisation because no function assigns to them or into them, sorts, clears or deletes from them
    (`pkgVarWrites`, which must name `init` only). A struct literal of any other type stays refused: it may be a buffer,
    a reader or a cache. -/
def allowedMaker (m : String) : Bool :=
  allowedMakers.contains m || "lit []".toList.isPrefixOf m.toList || "lit map[".toList.isPrefixOf m.toList

/-- one round: methods reached from an unlocked method through a call that does not enter a lock holder -/
def expand (t : Table) (u : List String) : List String :=
  u ++ (t.innerCalls.filter (fun c => u.contains c.1 && !t.lockHolders.contains c.2 && !u.contains c.2)).map (·.2)

def iterate (t : Table) : Nat → List String → List String
  | 0, u => u
  | n + 1, u => iterate t n (expand t u)

/-- methods that some call path from outside reaches without the lock -/
def unlocked (t : Table) : List String :=
  iterate t (t.innerCalls.length + 1) ((t.outerCalls.filter (fun c => !t.lockHolders.contains c.2)).map (·.2)).eraseDups

/-- `u` contains every unlocked entry and is closed under unlocked calls -/
def Closed (t : Table) (u : List String) : Bool :=
  t.outerCalls.all (fun c => t.lockHolders.contains c.2 || u.contains c.2) &&
  t.innerCalls.all (fun c => !u.contains c.1 || t.lockHolders.contains c.2 || u.contains c.2)

def RaceFree (t : Table) : Bool :=
  t.pkgVarWrites.all (fun w => w.2.2 == "init") &&
  Closed t (unlocked t) &&
  t.writerFieldWrites.all (fun w => !(unlocked t).contains w.2) &&
  t.writerFieldReads.all (fun w => !(unlocked t).contains w.2) &&
  t.unsafeExternalCalls.all (fun c => c.1 == "init") &&
  t.generatorFieldWrites.isEmpty &&
  t.writerStructWrites.isEmpty &&
  t.poolPuts.all (fun p => p.2.2 == "niled") &&
  t.pkgObjects.all (fun o => allowedMaker o.2.2) &&
  -- a file reader keeps nothing between calls: the only field its methods assign is the pooled input buffer, in Close.
  -- In particular Next does not keep the record it returns (which belongs to whoever received it)
  t.readerFieldWrites.all (fun w => w == ("bufferedReader", "Close")) &&
  -- an options object is written only while it is being constructed (by the option appliers): a reader, unmarshaler or
  -- builder shares it with every record it produces, and those may be in other goroutines' hands
  t.optsFieldWrites.isEmpty

/-- a call path inside the type: consecutive methods are caller/callee, and no method after the first takes the lock -/
def UnlockedPath (t : Table) : List String → Prop
  | [] => True
  | [_] => True
  | a :: b :: rest => (a, b) ∈ t.innerCalls ∧ t.lockHolders.contains b = false ∧ UnlockedPath t (b :: rest)

/-- **soundness of the closure**: if `u` is closed, every method at the end of a call path that enters the type without
    the lock and never passes a lock holder is in `u` — so a field written only by methods outside `u` is written only
    under the lock -/
theorem closed_sound (t : Table) (u : List String) (hc : Closed t u = true) (f : String) (path : List String) (m : String)
    (hentry : (f, path.head?.getD m) ∈ t.outerCalls) (hnl : t.lockHolders.contains (path.head?.getD m) = false)
    (hpath : UnlockedPath t path) (hlast : path.getLast? = some m) : u.contains m = true := by
  unfold Closed at hc
  simp only [Bool.and_eq_true, List.all_eq_true, Bool.or_eq_true] at hc
  obtain ⟨hout, hin⟩ := hc
  induction path generalizing f with
  | nil => simp at hlast
  | cons a rest ih =>
    have ha : u.contains a = true := by
      have := hout (f, a) (by simpa using hentry)
      rcases this with h | h
      · simp only [List.head?_cons, Option.getD_some] at hnl; rw [hnl] at h; cases h
      · exact h
    -- walk along the path keeping membership in u
    clear hentry hnl ih
    induction rest generalizing a with
    | nil => simp at hlast; subst hlast; exact ha
    | cons b rest' ih2 =>
      obtain ⟨hcall, hnlb, hrest⟩ := hpath
      have hb : u.contains b = true := by
        have := hin (a, b) hcall
        rcases this with (h | h) | h
        · rw [ha] at h; cases h
        · rw [hnlb] at h; cases h
        · exact h
      exact ih2 b hrest (by simpa using hlast) hb

end Gowarc.Discipline
